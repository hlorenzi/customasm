import Casm.Model.Overlap
/-! The invariant `OInv` of the overlap checker's entry list, and what `check_and_insert` does to a list that satisfies
    it (`checkAndInsert_spec`). -/
namespace Casm

def Disj (a b : OEntry) : Prop := a.pos + a.size ≤ b.pos ∨ b.pos + b.size ≤ a.pos

def OInv : List OEntry → Prop
  | [] => True
  | [a] => 0 < a.size
  | a :: b :: r => 0 < a.size ∧ a.pos + a.size ≤ b.pos ∧ OInv (b :: r)

theorem oinv_iff {l : List OEntry} :
    OInv l ↔ (∀ e ∈ l, 0 < e.size) ∧ l.Pairwise (fun a b => a.pos + a.size ≤ b.pos) := by
  induction l with
  | nil => exact ⟨fun _ => ⟨nofun, .nil⟩, fun _ => trivial⟩
  | cons a t ih =>
    cases t with
    | nil =>
      exact ⟨fun h => ⟨List.forall_mem_singleton.2 h, List.pairwise_singleton _ _⟩, fun h => h.1 a (List.mem_singleton_self a)⟩
    | cons b r =>
      simp only [OInv, ih, List.forall_mem_cons, List.pairwise_cons]
      constructor
      · rintro ⟨ha, hab, hs, hbr, hp⟩
        exact ⟨⟨ha, hs⟩, ⟨hab, fun e he => Nat.le_trans hab (Nat.le_trans (Nat.le_add_right ..) (hbr e he))⟩, hbr, hp⟩
      · rintro ⟨⟨ha, hs⟩, ⟨hab, _⟩, hp⟩
        exact ⟨ha, hab, hs, hp⟩

theorem OInv.sizes {l : List OEntry} (h : OInv l) : ∀ e ∈ l, 0 < e.size := (oinv_iff.1 h).1

theorem OInv.head_le {a : OEntry} {l : List OEntry} (h : OInv (a :: l)) :
    ∀ e ∈ l, a.pos + a.size ≤ e.pos := fun _ he => List.rel_of_pairwise_cons (oinv_iff.1 h).2 he

theorem OInv.pairwise {l : List OEntry} (h : OInv l) : l.Pairwise Disj := (oinv_iff.1 h).2.imp Or.inl

theorem OInv.sublist {l l' : List OEntry} (h : OInv l) (hs : l'.Sublist l) : OInv l' :=
  oinv_iff.2 ⟨fun e he => h.sizes e (hs.subset he), (oinv_iff.1 h).2.sublist hs⟩

theorem oinv_of_append_left {l r : List OEntry} (h : OInv (l ++ r)) : OInv l := h.sublist (List.sublist_append_left l r)

theorem oinv_of_append_right {l r : List OEntry} (h : OInv (l ++ r)) : OInv r := h.sublist (List.sublist_append_right l r)

theorem OInv.le_last {l : List OEntry} (h : OInv l) (z : OEntry) (hz : l.getLast? = some z) :
    ∀ e ∈ l, e.pos + e.size ≤ z.pos + z.size := by
  obtain ⟨ys, rfl⟩ := List.getLast?_eq_some_iff.1 hz
  intro e he
  rcases List.mem_append.1 he with he | he
  · exact Nat.le_trans ((List.pairwise_append.1 (oinv_iff.1 h).2).2.2 e he z (List.mem_singleton_self z)) (Nat.le_add_right ..)
  · rw [List.mem_singleton.1 he]; exact Nat.le_refl _

theorem OInv.ends_le {l : List OEntry} (h : OInv l) {p : Nat} (hz : ∀ z, l.getLast? = some z → z.pos + z.size ≤ p) :
    ∀ e ∈ l, e.pos + e.size ≤ p := by
  intro e he
  cases hl : l.getLast? with
  | none => rw [List.getLast?_eq_none_iff.1 hl] at he; cases he
  | some z => exact Nat.le_trans (h.le_last z hl e he) (hz z hl)

theorem OInv.le_starts {l : List OEntry} (h : OInv l) {p : Nat} (hb : ∀ b, l.head? = some b → p ≤ b.pos) :
    ∀ e ∈ l, p ≤ e.pos := by
  cases l with
  | nil => nofun
  | cons b t =>
    intro e he
    rcases List.mem_cons.1 he with rfl | he
    · exact hb e rfl
    · exact Nat.le_trans (hb b rfl) (Nat.le_trans (Nat.le_add_right ..) (h.head_le e he))

theorem oinv_cons {a : OEntry} {l : List OEntry} (ha : 0 < a.size)
    (hl : OInv l) (hb : ∀ b, l.head? = some b → a.pos + a.size ≤ b.pos) : OInv (a :: l) := by
  cases l with
  | nil => exact ha
  | cons b r => exact ⟨ha, hb b rfl, hl⟩

theorem oinv_append {l r : List OEntry} (hl : OInv l) (hr : OInv r)
    (hb : ∀ a b, l.getLast? = some a → r.head? = some b → a.pos + a.size ≤ b.pos) : OInv (l ++ r) := by
  induction l with
  | nil => exact hr
  | cons a t ih =>
    cases t with
    | nil => exact oinv_cons hl hr (hb a · rfl)
    | cons c u => exact ⟨hl.1, hl.2.1, ih hl.2.2 fun x y hx => hb x y (by rwa [List.getLast?_cons_cons])⟩

theorem take_lowerBound (es : List OEntry) (p : Nat) :
    es.take (lowerBound es p) = es.takeWhile (fun e => e.pos < p) := by
  have := List.take_left (l₁ := es.takeWhile (fun e => e.pos < p)) (l₂ := es.dropWhile (fun e => e.pos < p))
  rwa [List.takeWhile_append_dropWhile] at this

theorem drop_lowerBound (es : List OEntry) (p : Nat) :
    es.drop (lowerBound es p) = es.dropWhile (fun e => e.pos < p) := by
  have := List.drop_left (l₁ := es.takeWhile (fun e => e.pos < p)) (l₂ := es.dropWhile (fun e => e.pos < p))
  rwa [List.takeWhile_append_dropWhile] at this

theorem getElem?_lowerBound (es : List OEntry) (p : Nat) :
    es[lowerBound es p]? = (es.dropWhile (fun e => e.pos < p)).head? := by
  rw [← drop_lowerBound, List.head?_drop]

theorem getElem?_lowerBound_pred (es : List OEntry) (p : Nat) (h : 0 < lowerBound es p) :
    es[lowerBound es p - 1]? = (es.takeWhile (fun e => e.pos < p)).getLast? := by
  have := List.getElem?_take_of_lt (l := es) (Nat.sub_lt h Nat.one_pos)
  rw [take_lowerBound] at this
  rw [List.getLast?_eq_getElem?]
  exact this.symm

theorem takeWhile_all (es : List OEntry) (p : Nat) :
    ∀ e ∈ es.takeWhile (fun e => e.pos < p), e.pos < p :=
  fun e he => of_decide_eq_true (List.all_eq_true.1 List.all_takeWhile e he)

theorem dropWhile_head (es : List OEntry) (p : Nat) (b : OEntry)
    (h : (es.dropWhile (fun e => e.pos < p)).head? = some b) : p ≤ b.pos := by
  have := List.head?_dropWhile_not (fun e : OEntry => decide (e.pos < p)) es
  rw [h] at this
  simpa using this

theorem checkOverlap_spec (es : List OEntry) (p s : Nat) (hs : 0 < s) (hinv : OInv es) :
    let l := es.takeWhile (fun e => e.pos < p)
    let r := es.dropWhile (fun e => e.pos < p)
    (checkOverlap es p s = (l.length, false) ∧
        (∀ b, r.head? = some b → p + s ≤ b.pos) ∧ (∀ a, l.getLast? = some a → a.pos + a.size ≤ p)) ∨
    ((checkOverlap es p s).2 = true ∧
        ((∃ b, r.head? = some b ∧ p + s > b.pos) ∨ (∃ a, l.getLast? = some a ∧ a.pos + a.size > p))) := by
  intro l r
  have hnext : es[lowerBound es p]? = r.head? := getElem?_lowerBound es p
  have hlast : lowerBound es p > 0 → es[lowerBound es p - 1]? = l.getLast? := getElem?_lowerBound_pred es p
  generalize hc : checkOverlap es p s = c
  simp only [checkOverlap, hnext] at hc
  -- the look at the previous entry is the same in both `Err(i)` arms: treat it once
  generalize hP : (if lowerBound es p > 0 then _ else _ : Nat × Bool) = P at hc
  have hprev : (P = (l.length, false) ∧ ∀ a, l.getLast? = some a → a.pos + a.size ≤ p) ∨
      (P.2 = true ∧ ∃ a, l.getLast? = some a ∧ a.pos + a.size > p) := by
    by_cases hi : lowerBound es p > 0
    · simp only [if_pos hi, hlast hi] at hP
      cases ha : l.getLast? with
      | none => simp only [ha] at hP; exact .inl ⟨hP.symm, nofun⟩
      | some a =>
        by_cases h : a.pos + a.size > p
        · simp only [ha, if_pos h] at hP; exact .inr ⟨hP ▸ rfl, a, rfl, h⟩
        · simp only [ha, if_neg h] at hP; exact .inl ⟨hP.symm, fun a' ha' => Option.some.inj ha' ▸ Nat.le_of_not_lt h⟩
    · rw [if_neg hi] at hP
      rw [List.length_eq_zero_iff.1 (Nat.eq_zero_of_not_pos hi : l.length = 0)]
      exact .inl ⟨hP ▸ congrArg (·, false) (Nat.eq_zero_of_not_pos hi), nofun⟩
  cases hb : r.head? with
  | none =>
    simp only [hb] at hc
    exact hprev.imp (fun h => ⟨hc ▸ h.1, nofun, h.2⟩) (fun h => ⟨hc ▸ h.1, .inr h.2⟩)
  | some b =>
    by_cases heq : b.pos = p
    · simp only [hb, if_pos heq] at hc
      have := hinv.sizes b (List.dropWhile_subset _ (List.mem_of_mem_head? hb))
      exact .inr ⟨hc ▸ decide_eq_true ⟨this, hs⟩, .inl ⟨b, rfl, heq ▸ Nat.lt_add_of_pos_right hs⟩⟩
    · by_cases hgt : p + s > b.pos
      · simp only [hb, if_neg heq, if_pos hgt] at hc
        exact .inr ⟨hc ▸ rfl, .inl ⟨b, rfl, hgt⟩⟩
      · simp only [hb, if_neg heq, if_neg hgt] at hc
        exact hprev.imp (fun h => ⟨hc ▸ h.1, fun b' hb' => Option.some.inj hb' ▸ Nat.le_of_not_lt hgt, h.2⟩)
          (fun h => ⟨hc ▸ h.1, .inr h.2⟩)

theorem insertAt_append (l r : List OEntry) (e : OEntry) : insertAt (l ++ r) l.length e = l ++ e :: r := by
  rw [insertAt, List.take_left, List.drop_left]

theorem not_disj_of_starts_in {a b : OEntry} (h1 : a.pos ≤ b.pos) (h2 : b.pos < a.pos + a.size) (hb : 0 < b.size) :
    ¬ Disj a b := by
  unfold Disj; omega

theorem checkAndInsert_spec (es : List OEntry) (p s : Nat) (hs : 0 < s) (hinv : OInv es) :
    (∃ es', checkAndInsert es p s = some es' ∧ OInv es' ∧ es'.Perm (⟨p, s⟩ :: es) ∧ ∀ e ∈ es, Disj ⟨p, s⟩ e) ∨
    (checkAndInsert es p s = none ∧ ∃ e ∈ es, ¬ Disj ⟨p, s⟩ e) := by
  have hspec := checkOverlap_spec es p s hs hinv
  have hlt := takeWhile_all es p
  have hge := dropWhile_head es p
  have hes : es.takeWhile (fun e => e.pos < p) ++ es.dropWhile (fun e => e.pos < p) = es := List.takeWhile_append_dropWhile
  -- from here on the two halves are just lists `l`, `r` with `l ++ r = es` and the three facts above
  generalize es.takeWhile (fun e => e.pos < p) = l, es.dropWhile (fun e => e.pos < p) = r at hspec hlt hge hes
  subst hes
  unfold checkAndInsert
  rw [if_neg (Nat.ne_of_gt hs)]
  rcases hspec with ⟨hc, hnext, hprev⟩ | ⟨hc, hov⟩
  · -- neither neighbour reaches into the new range, so by sortedness no entry does
    have hl := oinv_of_append_left hinv
    have hr := oinv_of_append_right hinv
    refine .inl ⟨l ++ ⟨p, s⟩ :: r, ?_, ?_, List.perm_middle, fun e he => ?_⟩
    · rw [hc]; exact congrArg some (insertAt_append l r _)
    · exact oinv_append hl (oinv_cons hs hr hnext) fun a b ha hb => Option.some.inj hb ▸ hprev a ha
    · exact (List.mem_append.1 he).elim (fun he => .inr (hl.ends_le hprev e he)) (fun he => .inl (hr.le_starts hnext e he))
  · -- the neighbour found lies on its side of `p`, so the overlap is real
    refine .inr ⟨?_, ?_⟩
    · generalize checkOverlap (l ++ r) p s = c at hc
      obtain ⟨i, ov⟩ := c
      cases hc; rfl
    · rcases hov with ⟨b, hb, hgt⟩ | ⟨a, ha, hgt⟩
      · have hbm : b ∈ l ++ r := List.mem_append_right l (List.mem_of_mem_head? hb)
        exact ⟨b, hbm, not_disj_of_starts_in (a := ⟨p, s⟩) (hge b hb) hgt (hinv.sizes b hbm)⟩
      · have hal : a ∈ l := List.mem_of_mem_getLast? ha
        exact ⟨a, List.mem_append_left r hal, fun hd => not_disj_of_starts_in (b := ⟨p, s⟩) (Nat.le_of_lt (hlt a hal)) hgt hs hd.symm⟩

end Casm
