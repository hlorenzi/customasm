import Casm.Model.Assemble
import Casm.Proofs.ExceptLemmas
/-!
# Casm.Proofs.AssembleLemmas — what `frontEndPre`, `frontEnd` and `assemble` return

Each of the three is a ladder of stages in which every failing stage ends the run: the one path on which each succeeds
(`frontEnd_ok`, `assemble_ok`); `assemble` as front end, iteration and an output stage that is a function of what it
reads of the final state, the iteration count passed through (`assemble_eq`, `emitCore`); no stage fails with the empty
list of messages (`assemble_error_nonempty`).
-/
namespace Casm

/-- The bank manager and the fuel of the declaration loop are left open: what is proved of the front end's result
    depends on neither. -/
theorem frontEndPre_ok {opts : Opts} {fs : SrcFiles} {roots : List (List Char)} {d : Decls} {defs : Defs} {nodes : List AstNode}
    (h : frontEndPre opts fs roots = .ok (d, defs, nodes)) :
    ∃ parsed bankMgr fuel defsL nodesL, parseMany fs roots = .ok parsed ∧
      declLoop opts fuel { banks := bankMgr } {} (parsed.map AstNode.fresh) 0 = .ok (d, defsL, nodesL) ∧
      checkLeftoverIfs d defsL nodesL = .ok () ∧ defineRemaining d defsL nodesL = .ok (defs, nodes) := by
  simp only [frontEndPre] at h
  cases hp : parseMany fs roots with
  | error e => rw [hp] at h; cases h
  | ok parsed =>
    rw [hp] at h
    simp only [Except.map] at h
    -- four more stages: every `.error` arm contradicts `h`, the last arm holds the three equations
    repeat' split at h
    all_goals cases h
    exact ⟨parsed, _, _, _, _, rfl, ‹_›, ‹_›, ‹_›⟩

theorem frontEnd_ok {opts : Opts} {fs : SrcFiles} {roots : List (List Char)} {st : Static} {nodes : List AstNode} {defs : Defs}
    (h : frontEnd opts fs roots = .ok (st, nodes, defs)) :
    ∃ d defs0, frontEndPre opts fs roots = .ok (d, defs0, nodes) ∧ matchAll opts d defs0 nodes = (defs, []) ∧
      st = ⟨opts, d, roots.headD [], fs⟩ := by
  unfold frontEnd at h
  cases hp : frontEndPre opts fs roots with
  | error e => rw [hp] at h; cases h
  | ok x =>
    obtain ⟨d, defs0, nodes0⟩ := x
    rw [hp] at h
    obtain ⟨hr, h⟩ := guard_ok h
    cases h
    rw [Bool.not_eq_true, Bool.not_eq_false', List.isEmpty_iff] at hr
    exact ⟨d, defs0, rfl, Prod.ext rfl hr, rfl⟩

theorem frontEnd_opts (opts : Opts) (fs : SrcFiles) (roots : List (List Char)) (st : Static) (nodes : List AstNode) (defs : Defs)
    (h : frontEnd opts fs roots = .ok (st, nodes, defs)) : st.opts = opts ∧ st.files = fs := by
  obtain ⟨_, _, _, _, rfl⟩ := frontEnd_ok h
  exact ⟨rfl, rfl⟩

def AsmOk.core (o : AsmOk) : List Bool × List OSpan × List (String × BI) := (o.bits, o.spans, o.symbols)

def emitCore (banks : List Bank) (unused : List String) (items : List RItem) (syms : List (String × BI)) (rep : List String) :
    Except (List String) (List Bool × List OSpan × List (String × BI)) :=
  if !rep.isEmpty then .error rep
  else if !checkBankOverlap banks then .error [layErrMsg .bankOverlap]
  else if !unused.isEmpty then .error unused
  else match buildLoop banks ⟨initIter banks, fillBanks banks [], [], []⟩ items with
    | .error e => .error [layErrMsg e]
    | .ok bst => .ok (bst.out, bst.spans, syms)

def emit (opts : Opts) (st : Static) (nodes : List AstNode) (r : Nat × Defs × List String) : Except (List String) AsmOk :=
  (emitCore r.2.1.banks (checkUnusedDefines opts st.decls) (outputItems st r.2.1 nodes) (symbolListing st.decls r.2.1) r.2.2).map
    fun c => ⟨c.1, c.2.1, c.2.2, r.1⟩

theorem assemble_eq (opts : Opts) (fs : SrcFiles) (roots : List (List Char)) :
    assemble opts fs roots =
      (frontEnd opts fs roots).bind fun x => (resolveIteratively x.1 x.2.1 x.2.2).bind (emit opts x.1 x.2.1) := by
  unfold assemble
  cases frontEnd opts fs roots with
  | error e => rfl
  | ok x =>
    obtain ⟨st, nodes, d0⟩ := x
    simp only [Except.bind]
    cases resolveIteratively st nodes d0 with
    | error e => rfl
    | ok r =>
      obtain ⟨k, d, rep⟩ := r
      simp only [emit, emitCore, apply_ite (Except.map _)]
      cases buildLoop d.banks ⟨initIter d.banks, fillBanks d.banks [], [], []⟩ (outputItems st d nodes) <;> rfl

theorem assemble_ok {opts : Opts} {fs : SrcFiles} {roots : List (List Char)} {res : AsmOk} (h : assemble opts fs roots = .ok res) :
    ∃ st nodes defs0 iters defs bst, frontEnd opts fs roots = .ok (st, nodes, defs0) ∧
      resolveIteratively st nodes defs0 = .ok (iters, defs, []) ∧
      checkBankOverlap defs.banks = true ∧ checkUnusedDefines opts st.decls = [] ∧
      buildLoop defs.banks ⟨initIter defs.banks, fillBanks defs.banks [], [], []⟩ (outputItems st defs nodes) = .ok bst ∧
      res = ⟨bst.out, bst.spans, symbolListing st.decls defs, iters⟩ := by
  rw [assemble_eq] at h
  obtain ⟨⟨st, nodes, defs0⟩, hf, h⟩ := bind_ok_inv h
  obtain ⟨⟨iters, defs, rep⟩, hr, h⟩ := bind_ok_inv h
  obtain ⟨c, he, rfl⟩ := map_ok _ _ _ h
  unfold emitCore at he
  obtain ⟨h1, he⟩ := guard_ok he
  obtain ⟨h2, he⟩ := guard_ok he
  obtain ⟨h3, he⟩ := guard_ok he
  rw [Bool.not_eq_true, Bool.not_eq_false', List.isEmpty_iff] at h1 h3
  rw [Bool.not_eq_true, Bool.not_eq_false'] at h2
  split at he
  next => cases he
  next bst hb => cases he; exact ⟨_, _, _, _, _, _, hf, h1 ▸ hr, h2, h3, hb, rfl⟩

theorem emit_core (opts : Opts) (st : Static) (nodes : List AstNode) (r : Nat × Defs × List String) :
    (emit opts st nodes r).map AsmOk.core =
      emitCore r.2.1.banks (checkUnusedDefines opts st.decls) (outputItems st r.2.1 nodes) (symbolListing st.decls r.2.1) r.2.2 := by
  unfold emit
  cases emitCore r.2.1.banks (checkUnusedDefines opts st.decls) (outputItems st r.2.1 nodes) (symbolListing st.decls r.2.1) r.2.2 <;> rfl

theorem emit_core_congr {opts opts' : Opts} {st st' : Static} {nodes : List AstNode} {k k' : Nat} {d d' : Defs} {rep : List String}
    (hb : d'.banks = d.banks) (hu : checkUnusedDefines opts' st'.decls = checkUnusedDefines opts st.decls)
    (ho : outputItems st' d' nodes = outputItems st d nodes) (hs : symbolListing st'.decls d' = symbolListing st.decls d) :
    (emit opts' st' nodes (k', d', rep)).map AsmOk.core = (emit opts st nodes (k, d, rep)).map AsmOk.core := by
  simp only [emit_core, hb, hu, ho, hs]

theorem error_snoc_ne {α : Type} (l : List String) (m : String) :
    (Except.error (l ++ [m]) : Except (List String) α) ≠ .error [] := by
  simp

theorem frontEndPre_ne (opts : Opts) (fs : SrcFiles) (roots : List (List Char)) : frontEndPre opts fs roots ≠ .error [] := by
  simp only [frontEndPre]
  -- every arm is `.error [e]`, the next stage, or `.ok _`
  repeat' split
  all_goals nofun

theorem frontEnd_ne (opts : Opts) (fs : SrcFiles) (roots : List (List Char)) : frontEnd opts fs roots ≠ .error [] := by
  intro h
  unfold frontEnd at h
  split at h
  · cases h; exact frontEndPre_ne _ _ _ ‹_›
  · split at h
    cases guard_nil (fun hc => by simpa using hc) h

theorem iterLoop_ne (st : Static) (nodes : List AstNode) (max : Nat) :
    ∀ fuel i d rep, iterLoop st nodes max fuel i d rep ≠ .error [] := by
  intro fuel
  induction fuel with
  | zero => nofun
  | succ fuel ih =>
    intro i d rep
    rw [iterLoop]
    by_cases h : i ≥ max
    · rw [if_pos h]; nofun
    · rw [if_neg h]
      simp only
      split
      next => exact error_snoc_ne _ _
      next stable _ _ =>
        cases stable with
        | true => rw [if_pos rfl]; split <;> nofun
        | false =>
          rw [if_neg Bool.false_ne_true]
          by_cases hl : (i + 1 == max) = true
          · rw [if_pos hl]; exact error_snoc_ne _ _
          · rw [if_neg hl]; exact ih _ _ _

theorem resolveIteratively_ne (st : Static) (nodes : List AstNode) (defs : Defs) : resolveIteratively st nodes defs ≠ .error [] := by
  unfold resolveIteratively resolveIterativelyN
  split
  · rintro ⟨⟩; exact iterLoop_ne _ _ _ _ _ _ _ ‹_›
  · nofun
  · split
    · exact error_snoc_ne _ _
    · split
      · nofun
      · exact error_snoc_ne _ _

theorem assemble_error_nonempty (opts : Opts) (fs : SrcFiles) (roots : List (List Char)) (msgs : List String)
    (h : assemble opts fs roots = .error msgs) : msgs ≠ [] := by
  rintro rfl
  unfold assemble at h
  split at h
  · cases h; exact frontEnd_ne _ _ _ ‹_›
  · split at h
    · cases h; exact resolveIteratively_ne _ _ _ ‹_›
    · replace h := guard_nil (fun hc => by simpa using hc) h
      replace h := guard_nil (fun _ => List.cons_ne_nil _ _) h
      replace h := guard_nil (fun hc => by simpa using hc) h
      split at h <;> cases h

/-- `do` turns `let x ← match … with | p => e | …; rest` into `have k := fun x => rest; match … with | p => e >>= k | …`.
    Each step below names that `k`, shows that some `k x` succeeded (whichever arm was taken), and goes on inside `k x`,
    so that the block is walked once from top to bottom and its branches are never multiplied out. -/
theorem defineBank_ok {d : Decls} {defs : Defs} {b : BankdefAst} {bank : Bank} (h : defineBank d defs b = .ok bank) :
    (∀ s, bank.size = some s → s < USIZE_MAX1) ∧
    (∀ s o, bank.size = some s → bank.outp = some o → o + s < USIZE_MAX1) := by
  unfold defineBank at h
  extract_lets ev usize nonzero bigint k at h
  obtain ⟨unitV, h⟩ := bind_ok_inv' h
  obtain ⟨unit, h⟩ : ∃ u, k u = .ok bank := by split at h <;> exact bind_ok_inv' h
  obtain ⟨laV, h⟩ := bind_ok_inv' h
  extract_lets -underBinder k at h
  obtain ⟨la, h⟩ : ∃ u, k u = .ok bank := by split at h <;> exact bind_ok_inv' h
  obtain ⟨startV, h⟩ := bind_ok_inv' h
  extract_lets -underBinder k at h
  obtain ⟨start, h⟩ : ∃ u, k u = .ok bank := by split at h <;> exact bind_ok_inv' h
  obtain ⟨sizeV, h⟩ := bind_ok_inv' h
  extract_lets -underBinder k at h
  obtain ⟨size, h⟩ : ∃ u, k u = .ok bank := by split at h <;> exact bind_ok_inv' h
  obtain ⟨endV, h⟩ := bind_ok_inv' h
  extract_lets -underBinder k at h
  obtain ⟨endA, h⟩ : ∃ u, k u = .ok bank := by split at h <;> exact bind_ok_inv' h
  dsimp -zeta only [k] at h
  extract_lets -underBinder k at h
  obtain ⟨addrSize, h⟩ : ∃ u, k u = .ok bank := by
    split at h
    · exact bind_ok_inv' h
    · exact bind_ok_inv' h
    · split at h <;> exact bind_ok_inv' h
    · exact bind_ok_inv' h
  obtain ⟨outpV, h⟩ := bind_ok_inv' h
  extract_lets -underBinder k at h
  obtain ⟨outp, h⟩ : ∃ u, k u = .ok bank := by split at h <;> exact bind_ok_inv' h
  dsimp -zeta only [k] at h
  extract_lets -underBinder k at h
  obtain ⟨sizeBits, hsize, h⟩ : ∃ sb, (∀ s, sb = some s → s < USIZE_MAX1) ∧ k sb = .ok bank := by
    split at h
    · exact ⟨none, nofun, h⟩
    · split at h
      next hlt => exact ⟨_, fun s hs => Option.some.inj hs ▸ hlt, h⟩
      next => cases h
  obtain ⟨_, hwin, h⟩ := bind_ok_inv h
  cases h
  refine ⟨hsize, fun s o hs ho => ?_⟩
  cases hs
  cases ho
  simp only at hwin
  split at hwin
  · assumption
  · cases hwin

end Casm
