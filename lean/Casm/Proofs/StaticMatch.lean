import Casm.Model.Assemble
import Casm.Proofs.StaticEval
import Casm.Proofs.ResolveLemmas
/-!
# Casm.Proofs.StaticMatch — what `get_match_statically_known` promises

If the analysis calls an instruction match statically known, then resolving it in a later state
(other addresses, other values of everything that is not a statically known symbol, guessing
forbidden or not) gives the definite result it gave before (`resolve_static`).  For the instruction it follows that
the encoding chosen once is chosen again, provided every candidate was definite (`frozen_instruction_sound`): an
`unresolved` one need not be repeated.
-/
namespace Casm

-- `defsM`: the state whose `known` marks the analysis read; `defs1`, `ctx1`: the state and context in which the match was
-- resolved first (the instruction frozen); `defs2`, `ctx2`: any later ones
structure SRel (defsM defs1 defs2 : Defs) (ctx1 ctx2 : RCtx) : Prop where
  rd1 : defs1.ruledefs = defsM.ruledefs
  rd2 : defs2.ruledefs = defsM.ruledefs
  sym : ctx2.symCtx = ctx1.symCtx
  known : ∀ r, (defsM.sym r).known = true → (defs1.sym r).value ≠ .unknown → (defs2.sym r).value = (defs1.sym r).value

theorem evalVariable_le (st : Static) (defsM defs1 defs2 : Defs) (ctx1 ctx2 : RCtx) (rel : SRel defsM defs1 defs2 ctx1 ctx2)
    (level : Nat) (path : List String) (hq : matchQv st.decls defsM ctx1.symCtx level path = true)
    (v : Value) (h : evalVariable st defs1 ctx1 level path = .ok v) (hv : v ≠ .unknown) :
    evalVariable st defs2 ctx2 level path = .ok v := by
  unfold matchQv at hq
  split at hq
  next => cases hq
  next hg =>
    cases ht : st.decls.symbols.tryGetByName ctx1.symCtx level path with
    | none => rw [ht] at hq; cases hq
    | some r =>
      rw [ht] at hq
      have hr : st.decls.symbols.getByName ctx1.symCtx level path = .ok r := by rw [SymMgr.getByName, ht]
      rw [evalVariable_nobuiltin st defs1 ctx1 level path hg, symbolValue, hr, bind_ok] at h
      rw [evalVariable_nobuiltin st defs2 ctx2 level path hg, symbolValue, rel.sym, hr, bind_ok]
      cases (guard_ok h).2
      rw [rel.known r hq hv]
      exact if_neg fun hh => hv hh.1

theorem agreeLe_of_rel (st : Static) (defsM defs1 defs2 : Defs) (ctx1 ctx2 : RCtx) (rel : SRel defsM defs1 defs2 ctx1 ctx2) (fuel : Nat)
    (p : SKProvider) (hqv : p.queryVariable = matchQv st.decls defsM ctx1.symCtx) (hqf : p.queryFunction = asmBuiltinKnown) :
    AgreeLe p (mkEnv st defs1 fuel ctx1) (mkEnv st defs2 fuel ctx2) := by
  refine ⟨?_, ?_, ?_⟩
  · intro l path hq v h hv
    rw [mkEnv_var] at h ⊢
    rw [hqv] at hq
    exact evalVariable_le st defsM defs1 defs2 ctx1 ctx2 rel l path hq v h hv
  · intro n vs c v h _; rw [mkEnv_fn_asm st defs1 defs2 fuel ctx1 ctx2 n vs c]; exact h
  · intro n hq _
    rw [hqf] at hq
    exact Or.inl ⟨n, by rw [mkEnv_var]; exact evalVariable_asmBuiltin st defs1 ctx1 n hq,
      by rw [mkEnv_var]; exact evalVariable_asmBuiltin st defs2 ctx2 n hq⟩

/-! ## providers and contexts in lockstep -/

theorem SKProvider.local?_setLocal (p : SKProvider) (nm n : String) (l : SKLocal) :
    (p.setLocal nm l).local? n = if nm = n then some l else p.local? n :=
  find?_set p.locals nm n l

structure PInv (p : SKProvider) (qv : Nat → List String → Bool) : Prop where
  qv : p.queryVariable = qv
  qf : p.queryFunction = asmBuiltinKnown

/-- an inclusion function is a function to the match analysis and, being built in, no variable -/
theorem PInv.providerOK {p : SKProvider} {d : Decls} {defs : Defs} {symCtx : List String} (h : PInv p (matchQv d defs symCtx)) :
    ProviderOK p := by
  intro n hn
  rw [h.qf] at hn
  have hn' : isAsmBuiltinName n = true := hn
  simp [h.qv, matchQv, hn']

theorem PInv.setLocal {p : SKProvider} {qv : Nat → List String → Bool} (h : PInv p qv) (nm : String) (l : SKLocal) :
    PInv (p.setLocal nm l) qv := ⟨h.qv, h.qf⟩

theorem CtxInv.setParam {p : SKProvider} {c : ECtx} (hi : CtxInv p c) (nm : String) (v : Value) (x : List Char)
    (hqf : p.queryFunction = asmBuiltinKnown) :
    CtxInv (p.setLocal nm { valueKnown := true }) ((c.setLocal nm v).setSubst nm x) :=
  -- `hqf` is not needed: a name that is a local of the provider is not looked up among its functions
  hi.set nm v rfl (fun n hne => by rw [SKProvider.local?_setLocal, if_neg hne])
    fun _ h => by rw [SKProvider.local?_setLocal, if_pos rfl] at h; cases h

theorem matchKnownArgs_pinv (d : Decls) (defsM : Defs) (symCtx : List String) (qv : Nat → List String → Bool)
    (rdi ri : Nat) :
    ∀ (fk : Nat) (args : List IArg) (i : Nat) (pa p p' : SKProvider),
      matchKnownArgs d defsM symCtx fk (ruleOf defsM rdi ri) args i pa p = some p' → PInv p qv → PInv p' qv := by
  intro fk
  induction fk with
  | zero => intro args i pa p p' h; cases h
  | succ fk ih =>
    intro args i pa p p' h hp
    cases args with
    | nil => rw [matchKnownArgs] at h; cases h; exact hp
    | cons a rest =>
      simp only [matchKnownArgs] at h
      exact ih rest (i + 1) pa _ p' (guard_some h).2 (hp.setLocal _ _)

/-- The two parts together, by induction on the fuel: a match evaluates its arguments, a nested match is an argument.
    In the second the provider `p` grows by one known local as the production's context grows by one parameter. -/
theorem resolve_static (st : Static) (defsM defs1 defs2 : Defs) (ctx1 ctx2 : RCtx) (rel : SRel defsM defs1 defs2 ctx1 ctx2) :
    ∀ f : Nat,
      (∀ (fk : Nat) (m : IMatch) (argCtx : ECtx) (v : Value) (argCtx' : ECtx),
        matchKnown st.decls defsM ctx1.symCtx fk m = true → CtxInv (matchP0 st.decls defsM ctx1.symCtx) argCtx →
        resolveMatch st defs1 f ctx1 m argCtx = .ok (v, argCtx') → v.isUnk = false →
        resolveMatch st defs2 f ctx2 m argCtx = .ok (v, argCtx') ∧ CtxInv (matchP0 st.decls defsM ctx1.symCtx) argCtx') ∧
      (∀ (fk rdi ri : Nat) (args : List IArg) (i : Nat) (argCtx ruleCtx : ECtx) (p p' : SKProvider) (r : Sum Value ECtx) (argCtx' : ECtx),
        matchKnownArgs st.decls defsM ctx1.symCtx fk (ruleOf defsM rdi ri) args i (matchP0 st.decls defsM ctx1.symCtx) p = some p' →
        PInv p (matchQv st.decls defsM ctx1.symCtx) → CtxInv (matchP0 st.decls defsM ctx1.symCtx) argCtx → CtxInv p ruleCtx →
        resolveArgs st defs1 f ctx1 (ruleOf defsM rdi ri) args i argCtx ruleCtx = .ok (r, argCtx') → (∀ u, r = .inl u → u.isUnk = false) →
        resolveArgs st defs2 f ctx2 (ruleOf defsM rdi ri) args i argCtx ruleCtx = .ok (r, argCtx') ∧
          CtxInv (matchP0 st.decls defsM ctx1.symCtx) argCtx' ∧ (∀ rc, r = .inr rc → CtxInv p' rc)) := by
  intro f
  induction f with
  | zero =>
    exact ⟨fun _ _ _ _ _ _ _ h => (by rw [resolveMatch] at h; cases h),
      fun _ _ _ _ _ _ _ _ _ _ _ _ _ _ _ h => (by rw [resolveArgs] at h; cases h)⟩
  | succ f ih =>
    obtain ⟨ihA, ihB⟩ := ih
    have pinv0 : PInv (matchP0 st.decls defsM ctx1.symCtx) (matchQv st.decls defsM ctx1.symCtx) := ⟨rfl, rfl⟩
    have heval (p : SKProvider) (hp : PInv p (matchQv st.decls defsM ctx1.symCtx)) (c : ECtx) (e : Expr)
        (hk : staticallyKnown p e = true) (hc : CtxInv p c) :
        ResLe (·.isUnk = false) (fun _ => CtxInv p) (eval (mkEnv st defs1 f ctx1) c e) (eval (mkEnv st defs2 f ctx2) c e) :=
      eval_static_le p hp.providerOK _ _ (agreeLe_of_rel st defsM defs1 defs2 ctx1 ctx2 rel f p hp.qv hp.qf) c e hk hc
    refine ⟨?_, ?_⟩
    · intro fk m argCtx v argCtx' hk hinv
      suffices h : ResLe (Value.isUnk · = false) (fun _ => CtxInv _) _ _ from h v argCtx'
      cases fk with
      | zero => cases hk
      | succ fk =>
        rw [matchKnown] at hk
        split at hk
        next => cases hk
        next p' hka =>
          rw [resolveMatch_succ, resolveMatch_succ, ruleOf, ruleOf, rel.rd1, rel.rd2]
          -- the arguments build a context that fits `p'`; the production is statically known to `p'`
          refine .thenArgs (fun _ _ h => h.1)
            (fun r c' => ihB fk m.ruledef m.rule m.args 0 argCtx argCtx.deepened _ p' r c' hka pinv0 hinv
              (.nil rfl rfl))
            fun rc c hc => ?_
          have pinv' := matchKnownArgs_pinv st.decls defsM ctx1.symCtx _ m.ruledef m.rule fk m.args 0 _ _ p' hka pinv0
          exact (heval p' pinv' rc _ hk (hc.2 rc rfl)).setCtx fun _ => hc.1
    · intro fk rdi ri args i argCtx ruleCtx p p' r argCtx' hka pinv hinv hrc
      suffices h : ResLe (fun r => ∀ u, r = Sum.inl u → Value.isUnk u = false)
          (fun r c => CtxInv _ c ∧ ∀ rc, r = Sum.inr rc → CtxInv p' rc) _ _ from h r argCtx'
      cases fk with
      | zero => cases hka
      | succ fk =>
        cases args with
        | nil =>
          rw [matchKnownArgs] at hka
          cases hka
          rw [resolveArgs_nil, resolveArgs_nil]
          exact .ok ⟨hinv, fun _ h => Sum.inr.inj h ▸ hrc⟩
        | cons a rest =>
          simp only [matchKnownArgs] at hka
          obtain ⟨hknown, hka⟩ := guard_some hka
          rw [Bool.not_eq_true', Bool.not_eq_false] at hknown
          rw [resolveArgs_cons, resolveArgs_cons]
          refine .thenV' (I := fun _ => CtxInv _) isUnk_of_not_propagate (fun v h => h v rfl)
            (fun _ _ hc => ⟨hc, fun _ h => nomatch h⟩) ?_
            fun v c _ hc r c' => ihB fk rdi ri rest (i + 1) c _ _ p' r c' hka (pinv.setLocal _ _) hc
              (hrc.setParam _ v a.excerpt pinv.qf)
          generalize ((ruleOf defsM rdi ri).params.getD i ("", .unspecified)).2 = ty at hknown ⊢
          cases a with
          | expr e _ _ _ =>
            have hke : staticallyKnown (matchP0 st.decls defsM ctx1.symCtx) e = true := by
              cases ty with
              | ruledefRef _ => cases hknown
              | _ => exact hknown
            rw [argValue, argValue]
            exact .thenV' isUnk_of_not_propagate (fun _ => id) (fun _ _ => id) (heval _ pinv0 argCtx e hke hinv)
              fun v c _ hc => .retV (fun _ => hc) fun _ h _ => h
          | nested nm _ _ _ =>
            have hkn : matchKnown st.decls defsM ctx1.symCtx fk nm = true := by
              cases ty with
              | ruledefRef _ => exact hknown
              | _ => cases hknown
            exact fun v c' => ihA fk nm argCtx v c' hkn hinv

theorem resolveMatches_acc (st : Static) (d : Defs) (ctx : RCtx) : ∀ (f : Nat) (cands : List IMatch) (a : ECtx)
    (acc rs : List Resolution) (a' : ECtx), resolveMatches st d f ctx cands a acc = .ok (rs, a') → ∀ x ∈ acc, x ∈ rs := by
  intro f
  induction f with
  | zero => intro _ _ _ _ _ h; rw [resolveMatches] at h; cases h
  | succ f ih =>
    intro cands a acc rs a' h x hx
    cases cands with
    | nil => rw [resolveMatches_nil] at h; cases h; exact List.mem_reverse.mpr hx
    | cons m rest =>
      rw [resolveMatches_cons] at h
      obtain ⟨_, _, h⟩ := bind_ok_inv h
      obtain ⟨_, _, h⟩ := bind_ok_inv h
      exact ih _ _ _ _ _ h x (List.mem_cons_of_mem _ hx)

theorem resolveMatches_static (st : Static) (defsM defs1 defs2 : Defs) (ctx1 ctx2 : RCtx) (rel : SRel defsM defs1 defs2 ctx1 ctx2)
    (fk : Nat) :
    ∀ (f : Nat) (cands : List IMatch) (argCtx : ECtx) (acc rs : List Resolution) (argCtx' : ECtx),
      (∀ c ∈ cands, matchKnown st.decls defsM ctx1.symCtx fk c = true) →
      CtxInv (matchP0 st.decls defsM ctx1.symCtx) argCtx →
      resolveMatches st defs1 f ctx1 cands argCtx acc = .ok (rs, argCtx') →
      (rs.all fun r => match r with | .unresolved => false | _ => true) = true →
      resolveMatches st defs2 f ctx2 cands argCtx acc = .ok (rs, argCtx') := by
  intro f
  induction f with
  | zero => intro _ _ _ _ _ _ _ h; rw [resolveMatches] at h; cases h
  | succ f ih =>
    intro cands argCtx acc rs argCtx' hk hinv h hdef
    cases cands with
    | nil => rw [resolveMatches_nil] at h ⊢; exact h
    | cons m rest =>
      rw [resolveMatches_cons] at h ⊢
      obtain ⟨x, hx, h⟩ := bind_ok_inv h
      obtain ⟨r, hr, h⟩ := bind_ok_inv h
      -- `r` ends up in `rs`, hence is not `unresolved`, hence the value is not `unknown`
      have hrdef := List.all_eq_true.mp hdef r (resolveMatches_acc st defs1 ctx1 f rest x.2 (r :: acc) rs argCtx' h r (List.mem_cons_self ..))
      have hv : x.1.isUnk = false := by
        cases hx1 : x.1 with
        | unknown => rw [hx1] at hr; cases hr; cases hrdef
        | _ => rfl
      obtain ⟨e2, i2⟩ := (resolve_static st defsM defs1 defs2 ctx1 ctx2 rel f).1 fk m argCtx x.1 x.2
        (hk m (List.mem_cons_self ..)) hinv hx hv
      rw [e2, bind_ok, hr, bind_ok]
      exact ih rest x.2 (r :: acc) rs argCtx' (fun c hc => hk c (List.mem_cons_of_mem _ hc)) i2 h hdef

/-- soundness of the first-pass short-cut for instructions -/
theorem frozen_instruction_sound (st : Static) (defsM defs1 defs2 : Defs) (ctx1 ctx2 : RCtx) (rel : SRel defsM defs1 defs2 ctx1 ctx2)
    (fk : Nat) (cands : List IMatch)
    (hk : ∀ c ∈ cands, matchKnown st.decls defsM ctx1.symCtx fk c = true)
    (hd : allDefinite st defs1 ctx1 cands = true)
    (encs : List (Nat × BI)) (rep : List String)
    (h1 : resolveEncoding st defs1 evalFuel ctx1 cands {} = .ok (some encs, rep)) (hs : encs.length = 1) :
    resolveEncoding st defs2 evalFuel ctx2 cands {} = .ok (some encs, []) := by
  rw [resolveEncoding_evalFuel] at h1 ⊢
  obtain ⟨x, hx, hc⟩ := map_ok _ _ _ h1
  unfold allDefinite at hd
  rw [hx] at hd
  rw [resolveMatches_static st defsM defs1 defs2 ctx1 ctx2 rel fk _ cands {} [] x.1 x.2 hk (.nil rfl rfl) hx hd]
  exact congrArg Except.ok ((chooseEncoding_some hc).2 ctx2.canGuess (.inr (Nat.le_of_eq hs)))

/-! ## data elements and constants: no state at all -/

theorem pureP_ok : ProviderOK pureP := fun _ _ => rfl

theorem pure_static_eval (st : Static) (defs1 defs2 : Defs) (ctx1 ctx2 : RCtx) (e : Expr)
    (hk : staticallyKnown pureP e = true) :
    resolverEval st defs2 ctx2 {} e = resolverEval st defs1 ctx1 {} e := by
  unfold resolverEval
  have ag : Agree pureP (mkEnv st defs1 evalFuel ctx1) (mkEnv st defs2 evalFuel ctx2) := by
    refine ⟨fun l path h => (by cases h), fun n vs c => mkEnv_fn_asm st defs1 defs2 evalFuel ctx1 ctx2 n vs c, ?_⟩
    intro n hq _
    exact ⟨n, by rw [mkEnv_var]; exact evalVariable_asmBuiltin st defs1 ctx1 n hq,
      by rw [mkEnv_var]; exact evalVariable_asmBuiltin st defs2 ctx2 n hq⟩
  exact (eval_static pureP pureP_ok _ _ ag {} e hk (.nil rfl rfl)).1

end Casm
