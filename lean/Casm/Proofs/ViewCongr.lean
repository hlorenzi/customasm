import Casm.Model.Assemble
/-!
# Casm.Proofs.ViewCongr — what evaluation reads

Expression evaluation, candidate resolution and `asm` blocks (the mutual block of `Casm.Model.Resolve`)
read a resolver state through the symbol *values*, the banks, the rule definitions and the functions,
never through the "resolved" marks or the stored encodings (`SameView`); the static part through the
declarations, the files, the matcher switch and the budget of `asm`-block loops, never through
`optimize_statically_known` (`SameStatic`); the context through everything but `is_first_iteration`,
which `asm` blocks set for their own passes and nobody in the block consults.  `blockEq` says all of it at
once; the item resolvers enter the block at `resolverEval`, `resolveEncoding … evalFuel` and `allDefinite`.

`blockEq` is an induction on the fuel through every clause of the block, as `monoFam` (`Casm.Proofs.ModeMono`) and
`resolve_static` (`Casm.Proofs.StaticMatch`) are.  Those two relate results that differ, step by step, and take the clauses
in the form `Casm.Proofs.ResolveLemmas` gives them (`thenV`, `Except.bind`).  Here the two sides are the same clause with
equal parts: `simp only` with the definition and the induction hypotheses closes each, whatever the form of the clause.
-/
namespace Casm

structure SameView (d d' : Defs) : Prop where
  vals : ∀ r, (d'.sym r).value = (d.sym r).value
  banks : d'.banks = d.banks
  ruledefs : d'.ruledefs = d.ruledefs
  fns : d'.fns = d.fns

theorem SameView.refl (d : Defs) : SameView d d := ⟨fun _ => rfl, rfl, rfl, rfl⟩

structure SameStatic (st st' : Static) : Prop where
  decls : st'.decls = st.decls
  rootFile : st'.rootFile = st.rootFile
  files : st'.files = st.files
  optMatcher : st'.opts.optMatcher = st.opts.optMatcher
  budget : st'.opts.innerIter.getD st'.opts.maxIter = st.opts.innerIter.getD st.opts.maxIter

theorem SameStatic.refl (st : Static) : SameStatic st st := ⟨rfl, rfl, rfl, rfl, rfl⟩

def RCtx.setFirst (c : RCtx) (b : Bool) : RCtx := { c with first := b }

theorem evalAddress_view {d d' : Defs} (h : SameView d d') : evalAddress d' = evalAddress d := by
  funext ctx g; simp only [evalAddress, h.banks]

theorem evalVariable_view (st : Static) {d d' : Defs} (h : SameView d d') : evalVariable st d' = evalVariable st d := by
  funext ctx level path
  simp only [evalVariable, evalAddress_view h, h.vals]

theorem evalVariable_static {st st' : Static} (h : SameStatic st st') : evalVariable st' = evalVariable st := by
  funext d ctx level path
  simp only [evalVariable, h.decls]

theorem evalAsmBuiltin_static {st st' : Static} (h : SameStatic st st') : evalAsmBuiltin st' = evalAsmBuiltin st := by
  funext name args
  simp only [evalAsmBuiltin, Static.fileBytes, h.rootFile, h.files]

structure BlockEq (st st' : Static) (d d' : Defs) (fuel : Nat) : Prop where
  env : ∀ c b, mkEnv st' d' fuel (RCtx.setFirst c b) = mkEnv st d fuel c
  rmatch : ∀ c b, resolveMatch st' d' fuel (RCtx.setFirst c b) = resolveMatch st d fuel c
  rargs : ∀ c b, resolveArgs st' d' fuel (RCtx.setFirst c b) = resolveArgs st d fuel c
  rmatches : ∀ c b, resolveMatches st' d' fuel (RCtx.setFirst c b) = resolveMatches st d fuel c
  renc : ∀ c b, resolveEncoding st' d' fuel (RCtx.setFirst c b) = resolveEncoding st d fuel c
  easm : ∀ c b, evalAsm st' d' fuel (RCtx.setFirst c b) = evalAsm st d fuel c
  aiter : ∀ c b, asmIterate st' d' fuel (RCtx.setFirst c b) = asmIterate st d fuel c
  aonce : ∀ c b, asmOnce st' d' fuel (RCtx.setFirst c b) = asmOnce st d fuel c

theorem blockEq {st st' : Static} {d d' : Defs} (hs : SameStatic st st') (hd : SameView d d') :
    ∀ fuel, BlockEq st st' d d' fuel := by
  have hvar : ∀ c b, evalVariable st' d' (RCtx.setFirst c b) = evalVariable st d c := fun c b => by
    rw [evalVariable_static hs, evalVariable_view st hd]; rfl
  have haddr : ∀ c b, evalAddress d' (RCtx.setFirst c b) = evalAddress d c := fun c b => by
    rw [evalAddress_view hd]; rfl
  have hguess : ∀ (c : RCtx) b, (RCtx.setFirst c b).canGuess = c.canGuess := fun _ _ => rfl
  intro fuel
  induction fuel with
  | zero =>
    refine ⟨?_, ?_, ?_, ?_, ?_, ?_, ?_, ?_⟩
    · intro c b; simp only [mkEnv, hvar]
    · intro c b; funext m a; simp only [resolveMatch]
    · intro c b; funext r args i a b'; simp only [resolveArgs]
    · intro c b; funext ms a acc; simp only [resolveMatches]
    · intro c b; funext ms a; simp only [resolveEncoding]
    · intro c b; funext t e; simp only [evalAsm]
    · intro c b; funext ns e l bu i; rw [asmIterate, asmIterate]
    · intro c b; funext ns e l cu r u; simp only [asmOnce]
  | succ f ih =>
    refine ⟨?_, ?_, ?_, ?_, ?_, ?_, ?_, ?_⟩
    · intro c b; simp only [mkEnv, hvar, evalAsmBuiltin_static hs, hd.fns, ih.env, ih.easm]
    · intro c b; funext m a; simp only [resolveMatch, hd.ruledefs, ih.rargs, ih.env]
    · intro c b; funext r args i a b'
      cases args with
      | nil => simp only [resolveArgs]
      | cons x rest => cases x <;> simp only [resolveArgs, ih.env, ih.rmatch, ih.rargs]
    · intro c b; funext ms a acc
      cases ms with
      | nil => simp only [resolveMatches]
      | cons x rest => simp only [resolveMatches, ih.rmatch, ih.rmatches]
    · intro c b; funext ms a; simp only [resolveEncoding, ih.rmatches, hguess]
    · intro c b; funext t e; simp only [evalAsm, ih.aiter, hs.budget]
    · intro c b; funext ns e l bu i
      -- the passes of the loop run in contexts of their own making: `ih.aonce` at any context
      have ha : asmOnce st' d' f = asmOnce st d f := funext fun x => ih.aonce x x.first
      rw [asmIterate, asmIterate]
      simp only [ha, ih.aiter]
      rfl
    · intro c b; funext ns e l cu r u
      cases ns with
      | nil => simp only [asmOnce]
      | cons x rest =>
        have h1 : ∀ k, ({ RCtx.setFirst c b with cur := k } : RCtx) = RCtx.setFirst { c with cur := k } b := fun _ => rfl
        cases x <;> simp only [asmOnce, h1, hguess, haddr, hd.ruledefs, hs.optMatcher, ih.renc, ih.aonce]

/-- `blockEq` at one context: `c.setFirst c.first` is `c` -/
theorem sameCtx {α : Type} {F G : RCtx → α} (h : ∀ c b, F (RCtx.setFirst c b) = G c) : F = G :=
  funext fun c => h c c.first

theorem resolverEval_congr {st st' : Static} {d d' : Defs} (hs : SameStatic st st') (hd : SameView d d') :
    resolverEval st' d' = resolverEval st d := by
  funext c x e; simp only [resolverEval, sameCtx (blockEq hs hd evalFuel).env]

theorem resolveEncoding_congr {st st' : Static} {d d' : Defs} (hs : SameStatic st st') (hd : SameView d d') :
    resolveEncoding st' d' evalFuel = resolveEncoding st d evalFuel :=
  sameCtx (blockEq hs hd evalFuel).renc

theorem allDefinite_congr {st st' : Static} {d d' : Defs} (hs : SameStatic st st') (hd : SameView d d') :
    allDefinite st' d' = allDefinite st d := by
  funext c cs; simp only [allDefinite, sameCtx (blockEq hs hd (evalFuel - 1)).rmatches]

structure ViewEq (st : Static) (d d' : Defs) (fuel : Nat) : Prop where
  env : mkEnv st d' fuel = mkEnv st d fuel
  rmatch : resolveMatch st d' fuel = resolveMatch st d fuel
  rargs : resolveArgs st d' fuel = resolveArgs st d fuel
  rmatches : resolveMatches st d' fuel = resolveMatches st d fuel
  renc : resolveEncoding st d' fuel = resolveEncoding st d fuel
  easm : evalAsm st d' fuel = evalAsm st d fuel
  aiter : asmIterate st d' fuel = asmIterate st d fuel
  aonce : asmOnce st d' fuel = asmOnce st d fuel

theorem viewEq (st : Static) {d d' : Defs} (h : SameView d d') : ∀ fuel, ViewEq st d d' fuel := fun fuel =>
  let e := blockEq (SameStatic.refl st) h fuel
  ⟨sameCtx e.env, sameCtx e.rmatch, sameCtx e.rargs, sameCtx e.rmatches, sameCtx e.renc, sameCtx e.easm,
   sameCtx e.aiter, sameCtx e.aonce⟩

theorem resolverEval_view (st : Static) {d d' : Defs} (h : SameView d d') : resolverEval st d' = resolverEval st d :=
  resolverEval_congr (SameStatic.refl st) h

theorem evalVariable_first (st : Static) (d : Defs) (c : RCtx) (b : Bool) : evalVariable st d (c.setFirst b) = evalVariable st d c := rfl
theorem evalAddress_first (d : Defs) (c : RCtx) (b : Bool) : evalAddress d (c.setFirst b) = evalAddress d c := rfl

theorem resolverEval_first (st : Static) (d : Defs) (c : RCtx) (b : Bool) :
    resolverEval st d (c.setFirst b) = resolverEval st d c := by
  funext e x; simp only [resolverEval, (blockEq (.refl st) (.refl d) evalFuel).env]

theorem resolveEncoding_first (st : Static) (d : Defs) (c : RCtx) (b : Bool) :
    resolveEncoding st d evalFuel (c.setFirst b) = resolveEncoding st d evalFuel c :=
  (blockEq (.refl st) (.refl d) evalFuel).renc c b

theorem allDefinite_first (st : Static) (d : Defs) (c : RCtx) (b : Bool) (cs : List IMatch) :
    allDefinite st d (c.setFirst b) cs = allDefinite st d c cs := by
  simp only [allDefinite, (blockEq (.refl st) (.refl d) (evalFuel - 1)).rmatches]

theorem SameStatic.withStatic (st : Static) (b : Bool) : SameStatic st (st.withStatic b) := ⟨rfl, rfl, rfl, rfl, rfl⟩

theorem evalVariable_switch (st : Static) (b : Bool) (d : Defs) : evalVariable (st.withStatic b) d = evalVariable st d :=
  congrFun (evalVariable_static (.withStatic st b)) d
theorem evalAsmBuiltin_switch (st : Static) (b : Bool) : evalAsmBuiltin (st.withStatic b) = evalAsmBuiltin st :=
  evalAsmBuiltin_static (.withStatic st b)

theorem resolverEval_switch (st : Static) (b : Bool) {d d' : Defs} (h : SameView d d') :
    resolverEval (st.withStatic b) d' = resolverEval st d :=
  resolverEval_congr (.withStatic st b) h

end Casm
