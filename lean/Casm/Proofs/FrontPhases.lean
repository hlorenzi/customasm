import Casm.Proofs.AssembleLemmas
import Casm.Proofs.SymbolLemmas
/-!
# Casm.Proofs.FrontPhases — what each phase of the front end may do

The front end is a pipeline of passes over the node list, and every property proved of it is an invariant
carried through that pipeline.  This file opens each composite function once and says what a pass may do: a
declaration pass to one node (`DeclStep`, `collectAll_steps`), `define_symbols` and `resolve_constants_simple` to one
symbol entry (`defineStep_spec`, `resolveConstantsSimple_ind`), `define_remaining` to the symbols and to the nodes
(`defineRemaining_ind`, `defineRemaining_frame`), `match_all` to instruction entries only (`matchAll_symbols`).
An invariant is then proved by one lemma per kind of step and carried to the result by `frontEndPre_inv`.  The first
is here: the table handed to the resolver is a `Built` table (`frontEnd_built`).

`defineStep`, `constStep`, `fnStep` and `matchStep` are the bodies of the model's folds, written out again and named so that
a lemma can speak of one step.  The lemma that puts the name in place of the model's lambda (`defineSymbols_eq`,
`resolveConstantsSimple_eq`, `matchAll_eq`; for `fnStep` the last step of `defineRemaining_ok`) is `rfl`, so a change to the
model's lambda shows up there.
-/
namespace Casm

theorem mapNodesE_list {σ ε} (f : σ → AstNode → Except ε (σ × AstNode)) (J : σ → List AstNode → Prop)
    (hstep : ∀ s pre n post s' n', J s (pre ++ n :: post) → f s n = .ok (s', n') → J s' (pre ++ n' :: post))
    {nodes : List AstNode} {s s' : σ} {out : List AstNode} (hj : J s nodes) (h : mapNodesE f s nodes [] = .ok (s', out)) :
    J s' out := by
  suffices key : ∀ (nodes : List AstNode) (s : σ) (acc : List AstNode), J s (acc.reverse ++ nodes) →
      mapNodesE f s nodes acc = .ok (s', out) → J s' out from key nodes s [] hj h
  intro nodes
  induction nodes with
  | nil =>
    intro s acc hj h
    simp only [mapNodesE, Except.ok.injEq, Prod.mk.injEq] at h
    obtain ⟨rfl, rfl⟩ := h
    simpa using hj
  | cons n rest ih =>
    intro s acc hj h
    simp only [mapNodesE] at h
    split at h
    next => cases h
    next s1 n1 hf =>
      refine ih s1 (n1 :: acc) ?_ h
      simpa using hstep s acc.reverse n rest s1 n1 hj hf

def kindOfSym : SymKind → DeclKind
  | .label => .label
  | .constant _ => .constant

/-- one step of `collect`: a node without a reference gets one; a symbol or a function is declared for it in the
    root context or in the context left by a declaration -/
inductive DeclStep : Decls → AstNode → Decls → AstNode → Prop
  | same (d n) : DeclStep d n d n
  | symbol {d ctx l nm k ne r m} : Resolves d.symbols ctx → d.symbols.declare ctx nm l (kindOfSym k) = .ok (r, m) →
      DeclStep d (.symbol l nm k ne none) { d with symbols := m } (.symbol l nm k ne (some r))
  | fn {d nm ps body r m} : d.symbols.declare [] nm 0 .function = .ok (r, m) →
      DeclStep d (.fn nm ps body none) { d with symbols := m } (.fn nm ps body (some r))
  | bankdef {d b r m} : DeclStep d (.bankdef b none) { d with banks := m } (.bankdef b (some r))
  | bank {d nm r} : DeclStep d (.bank nm none) d (.bank nm (some r))
  | ruledef {d nm sub rules r m} : DeclStep d (.ruledef nm sub rules none) { d with ruledefs := m } (.ruledef nm sub rules (some r))

inductive DeclSteps : Decls → List AstNode → Decls → List AstNode → Prop
  | refl (d l) : DeclSteps d l d l
  | tail {d l d1 pre n post d2 n'} : DeclSteps d l d1 (pre ++ n :: post) → DeclStep d1 n d2 n' → DeclSteps d l d2 (pre ++ n' :: post)

theorem DeclSteps.trans {d l d1 l1 d2 l2} (h1 : DeclSteps d l d1 l1) (h2 : DeclSteps d1 l1 d2 l2) : DeclSteps d l d2 l2 := by
  induction h2 with
  | refl => exact h1
  | tail _ hs ih => exact .tail ih hs

theorem DeclSteps.inv {P : Decls → List AstNode → Prop}
    (hstep : ∀ {d pre n post d' n'}, P d (pre ++ n :: post) → DeclStep d n d' n' → P d' (pre ++ n' :: post))
    {d l d' l'} (h : DeclSteps d l d' l') (hp : P d l) : P d' l' := by
  induction h with
  | refl => exact hp
  | tail _ hs ih => exact hstep ih hs

theorem mapNodesE_steps {σ} (f : σ → AstNode → Except String (σ × AstNode)) (dec : σ → Decls) (I : σ → Prop)
    (hstep : ∀ s n s' n', I s → f s n = .ok (s', n') → I s' ∧ DeclStep (dec s) n (dec s') n')
    {nodes : List AstNode} {s s' : σ} {out : List AstNode} (hi : I s) (h : mapNodesE f s nodes [] = .ok (s', out)) :
    DeclSteps (dec s) nodes (dec s') out :=
  (mapNodesE_list f (fun s1 l => I s1 ∧ DeclSteps (dec s) nodes (dec s1) l)
    (fun s1 _ n _ s2 n' hj hf => ⟨(hstep s1 n s2 n' hj.1 hf).1, .tail hj.2 (hstep s1 n s2 n' hj.1 hf).2⟩) ⟨hi, .refl _ _⟩ h).2

theorem collectBankdefs_steps {d d' : Decls} {nodes nodes' : List AstNode} (h : collectBankdefs d nodes = .ok (d', nodes')) :
    DeclSteps d nodes d' nodes' := by
  refine mapNodesE_steps _ id (fun _ => True) (fun s n s' n' _ hf => ⟨trivial, ?_⟩) trivial h
  split at hf
  · split at hf
    · cases hf
    · cases hf; exact .bankdef
  · cases hf; exact .same _ _

theorem collectBanks_steps {d d' : Decls} {nodes nodes' : List AstNode} (h : collectBanks d nodes = .ok (d', nodes')) :
    DeclSteps d nodes d' nodes' := by
  refine mapNodesE_steps _ id (fun _ => True) (fun s n s' n' _ hf => ⟨trivial, ?_⟩) trivial h
  split at hf
  · split at hf
    · cases hf
    · cases hf; exact .bank
  · cases hf; exact .same _ _

theorem collectRuledefs_steps {d d' : Decls} {nodes nodes' : List AstNode} (h : collectRuledefs d nodes = .ok (d', nodes')) :
    DeclSteps d nodes d' nodes' := by
  refine mapNodesE_steps _ id (fun _ => True) (fun s n s' n' _ hf => ⟨trivial, ?_⟩) trivial h
  split at hf
  · simp only at hf
    split at hf
    · cases hf
    · cases hf; exact .ruledef
  · cases hf; exact .same _ _

theorem collectFunctions_steps {d d' : Decls} {nodes nodes' : List AstNode} (h : collectFunctions d nodes = .ok (d', nodes')) :
    DeclSteps d nodes d' nodes' := by
  refine mapNodesE_steps _ id (fun _ => True) (fun s n s' n' _ hf => ⟨trivial, ?_⟩) trivial h
  split at hf
  · split at hf
    next => cases hf
    next hd => cases hf; exact .fn hd
  · cases hf; exact .same _ _

theorem collectSymbols_steps {d d' : Decls} {nodes nodes' : List AstNode} (h : collectSymbols d nodes = .ok (d', nodes')) :
    DeclSteps d nodes d' nodes' := by
  unfold collectSymbols at h
  split at h
  next => cases h
  next dd ctx ns hm =>
    cases h
    -- the context `collect_symbols` carries is the root or the path of the symbol met last, whatever the table has
    -- become since: it is a context of the table it is used with
    refine mapNodesE_steps _ (·.1) (fun s => Resolves s.1.symbols s.2) (fun s n s' n' hi hf => ?_) (Or.inl rfl) hm
    split at hf
    next level name kind ne ref =>
      cases ref with
      | some r => cases hf; exact ⟨resolves_decl _ r, .same _ _⟩
      | none =>
        simp only at hf
        split at hf
        next => cases hf
        next r m hd =>
          cases hf
          refine ⟨resolves_decl m r, .symbol hi ?_⟩
          cases kind <;> exact hd
    next => cases hf; exact ⟨hi, .same _ _⟩

theorem collectAll_steps {d d' : Decls} {nodes nodes' : List AstNode} (h : collectAll d nodes = .ok (d', nodes')) :
    DeclSteps d nodes d' nodes' := by
  unfold collectAll at h
  obtain ⟨⟨d1, n1⟩, h1, h⟩ := bind_ok_inv h
  obtain ⟨⟨d2, n2⟩, h2, h⟩ := bind_ok_inv h
  obtain ⟨⟨d3, n3⟩, h3, h⟩ := bind_ok_inv h
  obtain ⟨⟨d4, n4⟩, h4, h⟩ := bind_ok_inv h
  exact ((((collectBankdefs_steps h1).trans (collectBanks_steps h2)).trans (collectRuledefs_steps h3)).trans
    (collectSymbols_steps h4)).trans (collectFunctions_steps h)

def symRef : AstNode → Option Nat
  | .symbol _ _ _ _ (some r) => some r
  | _ => none

theorem symRef_eq_some {n : AstNode} {r : Nat} : symRef n = some r ↔ ∃ lv nm kd ne, n = .symbol lv nm kd ne (some r) := by
  constructor
  · intro h
    cases n with
    | symbol lv nm kd ne ref =>
      cases ref with
      | none => cases h
      | some _ => cases h; exact ⟨_, _, _, _, rfl⟩
    | _ => cases h
  · rintro ⟨_, _, _, _, rfl⟩; rfl

theorem symRef_fresh (n : AstNode) : symRef n.fresh = none := by
  cases n <;> rfl

theorem DeclStep.ref {d d' : Decls} {n n' : AstNode} (h : DeclStep d n d' n') :
    n' = n ∨ symRef n' = none ∨ symRef n' = some d.symbols.decls.length := by
  cases h with
  | same => exact .inl rfl
  | symbol _ hd => exact .inr (.inr (by rw [(declare_spec hd).2.1]; rfl))
  | _ => exact .inr (.inl rfl)

theorem DeclStep.mem {d d' : Decls} {pre post : List AstNode} {n n' x : AstNode} (h : DeclStep d n d' n') (hx : x ∈ pre ++ n' :: post) :
    x ∈ pre ++ n :: post ∨ (x = n' ∧ (symRef x = none ∨ symRef x = some d.symbols.decls.length)) := by
  simp only [List.mem_append, List.mem_cons] at hx ⊢
  rcases hx with hx | rfl | hx
  · exact .inl (.inl hx)
  · rcases h.ref with e | e
    · exact .inl (.inr (.inl e))
    · exact .inr ⟨rfl, e⟩
  · exact .inl (.inr (.inr hx))

theorem DeclStep.table {d n d' n'} (h : DeclStep d n d' n') :
    d'.symbols = d.symbols ∨ ∃ ctx nm l k r, Resolves d.symbols ctx ∧ d.symbols.declare ctx nm l k = .ok (r, d'.symbols) := by
  cases h with
  | symbol hc hd => exact .inr ⟨_, _, _, _, _, hc, hd⟩
  | fn hd => exact .inr ⟨_, _, _, _, _, .inl rfl, hd⟩
  | _ => exact .inl rfl

theorem DeclStep.built {d n d' n'} (h : DeclStep d n d' n') (hb : Built d.symbols) : Built d'.symbols := by
  rcases h.table with e | ⟨_, _, _, _, _, hc, hd⟩
  · rw [e]; exact hb
  · exact .declare hb hc hd

theorem DeclStep.ext {d n d' n'} (h : DeclStep d n d' n') : DeclExt d.symbols d'.symbols := by
  rcases h.table with e | ⟨_, _, _, _, _, _, hd⟩
  · rw [e]; exact .refl _
  · exact (declare_spec hd).2.2.declExt

theorem DeclStep.fresh {d n d' n'} (h : DeclStep d n d' n') : n'.fresh = n.fresh := by
  cases h <;> rfl

theorem DeclSteps.built {d l d' l'} (h : DeclSteps d l d' l') (hb : Built d.symbols) : Built d'.symbols :=
  h.inv (P := fun d _ => Built d.symbols) (fun hp hs => hs.built hp) hb

theorem DeclSteps.ext {d l d' l'} (h : DeclSteps d l d' l') : DeclExt d.symbols d'.symbols :=
  h.inv (P := fun d1 _ => DeclExt d.symbols d1.symbols) (fun hp hs => hp.trans hs.ext) (.refl _)

theorem DeclSteps.fresh {d l d' l'} (h : DeclSteps d l d' l') : l'.map AstNode.fresh = l.map AstNode.fresh :=
  h.inv (P := fun _ l1 => l1.map AstNode.fresh = l.map AstNode.fresh)
    (fun hp hs => by simpa [hs.fresh] using hp) rfl

/-- one round of the first loop of `assemble` (`declLoop`): its three calls succeed, with these results -/
structure Round (opts : Opts) (d : Decls) (defs : Defs) (nodes : List AstNode)
    (d1 : Decls) (n1 : List AstNode) (defs2 : Defs) (cnt : Nat) (nodes2 : List AstNode) (ifs : Nat) : Prop where
  collect : collectAll d nodes = .ok (d1, n1)
  consts : resolveConstantsSimple opts d1 (defineSymbols defs n1) n1 = .ok (defs2, cnt)
  ifs : resolveIfs d1 defs2 n1 = .ok (nodes2, ifs)

/-- the last round splices nothing -/
theorem declLoop_ind (opts : Opts) (P : Decls → Defs → List AstNode → Decls → Defs → List AstNode → Prop)
    (last : ∀ {d defs nodes d1 n1 defs2 cnt nodes2}, Round opts d defs nodes d1 n1 defs2 cnt nodes2 0 → P d defs nodes d1 defs2 nodes2)
    (more : ∀ {d defs nodes d1 n1 defs2 cnt nodes2 ifs d' defs' nodes'}, Round opts d defs nodes d1 n1 defs2 cnt nodes2 ifs →
      P d1 defs2 nodes2 d' defs' nodes' → P d defs nodes d' defs' nodes') :
    ∀ (fuel : Nat) {d defs nodes prev d' defs' nodes'}, declLoop opts fuel d defs nodes prev = .ok (d', defs', nodes') →
      P d defs nodes d' defs' nodes' := by
  intro fuel
  induction fuel with
  | zero => intro d defs nodes prev d' defs' nodes' h; cases h
  | succ f ih =>
    intro d defs nodes prev d' defs' nodes' h
    simp only [declLoop] at h
    split at h
    next => cases h
    next hc =>
      split at h
      next => cases h
      next hr =>
        split at h
        next => cases h
        next hi =>
          split at h
          next hstop =>
            cases h
            simp only [Bool.and_eq_true, beq_iff_eq] at hstop
            exact last ⟨hc, hr, hstop.2 ▸ hi⟩
          next => exact more ⟨hc, hr, hi⟩ (ih h)

theorem declLoop_inv (opts : Opts) (P : Decls → Defs → List AstNode → Prop)
    (round : ∀ {d defs nodes d1 n1 defs2 cnt nodes2 ifs}, Round opts d defs nodes d1 n1 defs2 cnt nodes2 ifs →
      P d defs nodes → P d1 defs2 nodes2)
    {fuel : Nat} {d defs nodes prev d' defs' nodes'} (h : declLoop opts fuel d defs nodes prev = .ok (d', defs', nodes'))
    (hp : P d defs nodes) : P d' defs' nodes' :=
  declLoop_ind opts (fun d defs nodes d' defs' nodes' => P d defs nodes → P d' defs' nodes')
    (fun r hp => round r hp) (fun r ih hp => ih (round r hp)) fuel h hp

def defineStep (defs : Defs) (n : AstNode) : Defs :=
  match n with
  | .symbol _ _ kind ne (some r) =>
    if ((defs.symbols.getD r none).isSome) then defs
    else
      let known := match kind with
        | .constant e => staticallyKnown { queryFunction := asmBuiltinKnown } e
        | .label => false
      { defs with symbols := (padTo defs.symbols r none).set r (some { noEmit := ne, known := known }) }
  | _ => defs

theorem defineSymbols_eq (defs : Defs) (l : List AstNode) : defineSymbols defs l = l.foldl defineStep defs := rfl

theorem defineStep_spec (defs : Defs) (n : AstNode) :
    (defineStep defs n = defs ∧ ∀ r, symRef n = some r → (defs.symbols.getD r none).isSome = true) ∨
    ∃ lv nm kind ne r known, n = .symbol lv nm kind ne (some r) ∧ (defs.symbols.getD r none).isSome = false ∧
      (∀ e, kind = .constant e → known = staticallyKnown pureP e) ∧ (kind = .label → known = false) ∧
      defineStep defs n = { defs with symbols := (padTo defs.symbols r none).set r (some { noEmit := ne, known := known }) } := by
  unfold defineStep
  split
  next lv nm kind ne r =>
    split
    next hs => exact .inl ⟨rfl, fun r' hr' => by cases hr'; exact hs⟩
    next hs =>
      refine .inr ⟨lv, nm, kind, ne, r, _, rfl, Bool.eq_false_iff.2 hs, ?_, ?_, rfl⟩
      · rintro e rfl; rfl
      · rintro rfl; rfl
  next hn =>
    refine .inl ⟨rfl, fun r hr => ?_⟩
    obtain ⟨_, _, _, _, rfl⟩ := symRef_eq_some.1 hr
    exact (hn _ _ _ _ _ rfl).elim

/-- the entry `resolve_constants_simple` writes for an evaluated constant -/
def writeOf (opts : Opts) (s : SymDef) (v : Value) : SymDef :=
  match v with
  | .unknown => { s with value := v }
  | _ => if opts.optStatic && s.known then { s with value := v, resolved := true } else { s with value := v }

theorem writeOf_eq (opts : Opts) (s : SymDef) (v : Value) :
    writeOf opts s v = { s with value := v, resolved := s.resolved || (opts.optStatic && s.known && v != .unknown) } := by
  unfold writeOf
  split
  next => simp
  next hv =>
    have hv' : (v != .unknown) = true := bne_iff_ne.2 hv
    by_cases hc : (opts.optStatic && s.known) = true
    · rw [if_pos hc]; simp [hc, hv']
    · rw [if_neg hc]; simp [hc]

theorem writeOf_value (opts : Opts) (s : SymDef) (v : Value) : (writeOf opts s v).value = v := by rw [writeOf_eq]
theorem writeOf_known (opts : Opts) (s : SymDef) (v : Value) : (writeOf opts s v).known = s.known := by rw [writeOf_eq]
theorem writeOf_noEmit (opts : Opts) (s : SymDef) (v : Value) : (writeOf opts s v).noEmit = s.noEmit := by rw [writeOf_eq]

def constStep (opts : Opts) (d : Decls) (acc : Except String (Defs × Nat)) (n : AstNode) : Except String (Defs × Nat) :=
  match acc with
  | .error e => .error e
  | .ok (defs, count) =>
    match n with
    | .symbol _ _ (.constant e) _ (some r) =>
      let s := defs.sym r
      if s.resolved then .ok (defs, count + 1)
      else
        let fullName := (d.symbols.decls.getD r default).name
        match opts.defines.find? (·.1 == fullName) with
        | some dv => .ok (defs.setSym r { s with value := dv.2, resolved := true }, count + 1)
        | none =>
          match evalSimple d defs e with
          | .error m => .error m
          | .ok v =>
            let s' := { s with value := v }
            match v with
            | .unknown => .ok (defs.setSym r s', count)
            | _ =>
              if opts.optStatic && s.known then .ok (defs.setSym r { s' with resolved := true }, count + 1)
              else .ok (defs.setSym r s', count + 1)
    | _ => .ok (defs, count)

theorem resolveConstantsSimple_eq (opts : Opts) (d : Decls) (defs : Defs) (l : List AstNode) :
    resolveConstantsSimple opts d defs l = l.foldl (constStep opts d) (.ok (defs, 0)) := rfl

theorem constStep_const (opts : Opts) (d : Decls) (defs : Defs) (count lv : Nat) (nm : String) (e : Expr) (ne : Bool) (r : Nat) :
    constStep opts d (.ok (defs, count)) (.symbol lv nm (.constant e) ne (some r)) =
      if (defs.sym r).resolved then .ok (defs, count + 1)
      else match opts.defines.find? (·.1 == (d.symbols.decls.getD r default).name) with
        | some dv => .ok (defs.setSym r { defs.sym r with value := dv.2, resolved := true }, count + 1)
        | none => match evalSimple d defs e with
          | .error m => .error m
          | .ok v => .ok (defs.setSym r (writeOf opts (defs.sym r) v), if v = .unknown then count else count + 1) := by
  simp only [constStep]
  split
  · rfl
  · split
    · rfl
    · split
      · rfl
      · unfold writeOf
        split
        next => rfl
        next hv =>
          rw [if_neg (fun h => hv h)]
          split <;> rfl

theorem constStep_other (opts : Opts) (d : Decls) (x : Defs × Nat) {n : AstNode}
    (h : ∀ lv nm e ne r, n ≠ .symbol lv nm (.constant e) ne (some r)) : constStep opts d (.ok x) n = .ok x := by
  obtain ⟨defs, count⟩ := x
  simp only [constStep]

theorem resolveConstantsSimple_ind (opts : Opts) (d : Decls) {nodes : List AstNode} (P : Defs → Prop)
    (hdef : ∀ {defs lv nm e ne r dv}, AstNode.symbol lv nm (.constant e) ne (some r) ∈ nodes → P defs → (defs.sym r).resolved = false →
      opts.defines.find? (·.1 == (d.symbols.decls.getD r default).name) = some dv →
      P (defs.setSym r { defs.sym r with value := dv.2, resolved := true }))
    (hev : ∀ {defs lv nm e ne r v}, AstNode.symbol lv nm (.constant e) ne (some r) ∈ nodes → P defs → (defs.sym r).resolved = false →
      opts.defines.find? (·.1 == (d.symbols.decls.getD r default).name) = none → evalSimple d defs e = .ok v →
      P (defs.setSym r (writeOf opts (defs.sym r) v)))
    {defs defs' : Defs} {c : Nat} (hp : P defs) (h : resolveConstantsSimple opts d defs nodes = .ok (defs', c)) : P defs' := by
  rw [resolveConstantsSimple_eq] at h
  refine List.foldlRecOn nodes (constStep opts d) (motive := fun acc => ∀ x k, acc = .ok (x, k) → P x)
    (fun x k e => by cases e; exact hp) (fun acc ha n hn x k hx => ?_) defs' c h
  cases acc with
  | error e => cases hx
  | ok y =>
    obtain ⟨y1, y2⟩ := y
    have hy := ha y1 y2 rfl
    by_cases hc : ∃ lv nm e ne r, n = .symbol lv nm (.constant e) ne (some r)
    · obtain ⟨lv, nm, e, ne, r, rfl⟩ := hc
      rw [constStep_const] at hx
      split at hx
      next => cases hx; exact hy
      next hres =>
        have hres : (y1.sym r).resolved = false := Bool.eq_false_iff.2 hres
        split at hx
        next dv hfind => cases hx; exact hdef hn hy hres hfind
        next hfind =>
          split at hx
          next => cases hx
          next v hevs => cases hx; exact hev hn hy hres hfind hevs
    · rw [constStep_other opts d _ (fun lv nm e ne r he => hc ⟨lv, nm, e, ne, r, he⟩)] at hx
      cases hx; exact hy

theorem defineSymbols_frame (defs : Defs) (l : List AstNode) :
    defineSymbols defs l = { defs with symbols := (defineSymbols defs l).symbols } := by
  rw [defineSymbols_eq]
  refine List.foldlRecOn l defineStep (b := defs) (motive := fun x => x = { defs with symbols := x.symbols }) rfl fun x hx n _ => ?_
  rcases defineStep_spec x n with ⟨e, _⟩ | ⟨_, _, _, _, _, _, _, _, _, _, e⟩ <;> rw [e]
  · exact hx
  · rw [hx]

theorem resolveConstantsSimple_frame {opts : Opts} {d : Decls} {defs defs' : Defs} {nodes : List AstNode} {c : Nat}
    (h : resolveConstantsSimple opts d defs nodes = .ok (defs', c)) : defs' = { defs with symbols := defs'.symbols } :=
  resolveConstantsSimple_ind opts d (fun x => x = { defs with symbols := x.symbols })
    (fun _ hx _ _ => by rw [hx]; rfl) (fun _ hx _ _ _ => by rw [hx]; rfl) rfl h

/-- the step of the loop that defines the functions and their symbols -/
def fnStep (acc : List FnDef × List (Option SymDef)) (n : AstNode) : List FnDef × List (Option SymDef) :=
  match n with
  | .fn _ ps body (some r) =>
    let idx := acc.1.length
    (acc.1 ++ [⟨r, ps, body⟩],
     (padTo acc.2 r none).set r (some { noEmit := true, known := true, value := .fn idx, resolved := true }))
  | _ => acc

theorem defineRemaining_ok {d : Decls} {defs defs' : Defs} {nodes nodes' : List AstNode}
    (h : defineRemaining d defs nodes = .ok (defs', nodes')) :
    ∃ banks ruledefs, (defs', nodes') = nodes.foldl assignRef
      ({ defs with banks := banks, ruledefs := ruledefs, fns := (nodes.foldl fnStep ([], defs.symbols)).1,
                   symbols := (nodes.foldl fnStep ([], defs.symbols)).2 }, []) := by
  unfold defineRemaining at h
  simp only [bind, Except.bind] at h
  split at h
  · cases h
  · split at h
    · cases h
    · cases h; exact ⟨_, _, rfl⟩

/-- the nodes that get item references from `define_remaining` -/
def AstNode.isItem : AstNode → Bool
  | .instr .. | .data .. | .res .. | .align .. | .addr .. => true
  | _ => false

theorem symRef_item {n : AstNode} (h : n.isItem = true) : symRef n = none := by
  cases n with
  | symbol => cases h
  | _ => rfl

theorem assignRef_with_symbols (df : Defs) (s : List (Option SymDef)) (out : List AstNode) (n : AstNode) :
    assignRef ({ df with symbols := s }, out) n = ({ (assignRef (df, out) n).1 with symbols := s }, (assignRef (df, out) n).2) := by
  cases n <;> rfl

theorem assignRef_symbols (acc : Defs × List AstNode) (n : AstNode) : (assignRef acc n).1.symbols = acc.1.symbols :=
  congrArg (·.1.symbols) (assignRef_with_symbols acc.1 acc.1.symbols acc.2 n)

theorem assignRef_nodes (acc : Defs × List AstNode) (n : AstNode) :
    ∃ n', (assignRef acc n).2 = acc.2 ++ [n'] ∧ (n' = n ∨ n'.isItem = true) := by
  obtain ⟨df, out⟩ := acc
  simp only [assignRef]
  split
  -- the five kinds of item node, then every other node
  iterate 5 exact ⟨_, rfl, .inr rfl⟩
  exact ⟨_, rfl, .inl rfl⟩

theorem defineRemaining_frame {d : Decls} {defs defs' : Defs} {nodes nodes' : List AstNode}
    (h : defineRemaining d defs nodes = .ok (defs', nodes')) :
    defs'.symbols = (nodes.foldl fnStep ([], defs.symbols)).2 ∧ ∀ x ∈ nodes', x ∈ nodes ∨ x.isItem = true := by
  obtain ⟨banks, ruledefs, e⟩ := defineRemaining_ok h
  rw [show defs' = (defs', nodes').1 from rfl, show nodes' = (defs', nodes').2 from rfl, e]
  refine List.foldlRecOn nodes assignRef
    (motive := fun a => a.1.symbols = (nodes.foldl fnStep ([], defs.symbols)).2 ∧ ∀ x ∈ a.2, x ∈ nodes ∨ x.isItem = true)
    ?_ fun a ha n hn => ?_
  · exact ⟨rfl, fun _ hx => nomatch hx⟩
  obtain ⟨n', e, hn'⟩ := assignRef_nodes a n
  refine ⟨(assignRef_symbols a n).trans ha.1, fun x hx => ?_⟩
  rw [e, List.mem_append, List.mem_singleton] at hx
  rcases hx with hx | rfl
  · exact ha.2 x hx
  · exact hn'.imp_left fun (e : x = n) => e ▸ hn

/-- every write makes the slot of a function node; what reads a state through its symbols only (`hcongr`), and is kept
    by every such write, is kept -/
theorem defineRemaining_ind {d : Decls} {defs defs' : Defs} {nodes nodes' : List AstNode} (P : Defs → Prop)
    (hfn : ∀ x nm ps body r idx, AstNode.fn nm ps body (some r) ∈ nodes → P x →
      P { x with symbols := (padTo x.symbols r none).set r (some { noEmit := true, known := true, value := .fn idx, resolved := true }) })
    (hcongr : ∀ x y : Defs, y.symbols = x.symbols → P x → P y)
    (hp : P defs) (h : defineRemaining d defs nodes = .ok (defs', nodes')) : P defs' := by
  refine hcongr { defs with symbols := _ } defs' (defineRemaining_frame h).1 ?_
  refine List.foldlRecOn nodes fnStep (b := ([], defs.symbols)) (motive := fun a => P { defs with symbols := a.2 }) hp fun a ha n hn => ?_
  unfold fnStep
  split
  · exact hfn _ _ _ _ _ _ hn ha
  · exact ha

/-- what holds of parser output and is kept by every round of the loop (`P`) holds when the loop ends;
    `define_remaining` takes it to what holds of the result (`Q`) -/
theorem frontEndPre_inv {opts : Opts} {fs : SrcFiles} {roots : List (List Char)} {d : Decls} {defs : Defs} {nodes : List AstNode}
    (P Q : Decls → Defs → List AstNode → Prop) (init : ∀ bankMgr (parsed : List AstNode), P { banks := bankMgr } {} (parsed.map AstNode.fresh))
    (round : ∀ {d defs nodes d1 n1 defs2 cnt nodes2 ifs}, Round opts d defs nodes d1 n1 defs2 cnt nodes2 ifs →
      P d defs nodes → P d1 defs2 nodes2)
    (rem : ∀ {d defs nodes defs' nodes'}, defineRemaining d defs nodes = .ok (defs', nodes') → P d defs nodes → Q d defs' nodes')
    (h : frontEndPre opts fs roots = .ok (d, defs, nodes)) : Q d defs nodes := by
  obtain ⟨parsed, bankMgr, _, _, _, _, hl, _, hr⟩ := frontEndPre_ok h
  exact rem hr (declLoop_inv opts P round hl (init bankMgr parsed))

def matchStep (opts : Opts) (d : Decls) (acc : Defs × List String × List String) (n : AstNode) : Defs × List String × List String :=
  let (defs, symCtx, rep) := acc
  match n with
  | .instr src (some r) =>
    let ms := matchInstr opts.optMatcher defs.ruledefs src
    if ms.isEmpty then (defs, symCtx, rep ++ ["no match found for instruction"])
    else
      let infos : List MatchInfo := ms.map fun m =>
        ⟨m, matchKnown d defs symCtx 64 m, (matchStaticSize defs 64 m).getD 0⟩
      let largest := infos.foldl (fun mx i => if i.size > mx then i.size else mx) 0
      let ins : InstrDef := { cands := infos, known := infos.all (·.known), encoding := ⟨0, some largest⟩ }
      ({ defs with instrs := defs.instrs.set r ins }, symCtx, rep)
  | .symbol _ _ _ _ (some r) => (defs, (d.symbols.decls.getD r default).ctx, rep)
  | _ => acc

theorem matchAll_eq (opts : Opts) (d : Decls) (defs : Defs) (nodes : List AstNode) :
    matchAll opts d defs nodes = ((nodes.foldl (matchStep opts d) (defs, [], [])).1, (nodes.foldl (matchStep opts d) (defs, [], [])).2.2) :=
  rfl

theorem matchAll_symbols (opts : Opts) (d : Decls) (defs : Defs) (nodes : List AstNode) :
    (matchAll opts d defs nodes).1.symbols = defs.symbols := by
  rw [matchAll_eq]
  refine List.foldlRecOn nodes (matchStep opts d) (b := (defs, [], [])) (motive := fun a => a.1.symbols = defs.symbols) rfl
    fun a ha n _ => ?_
  obtain ⟨x, sc, rp⟩ := a
  simp only [matchStep]
  split
  · split <;> exact ha
  · exact ha
  · exact ha

/-- of a state, the analysis that `match_all` stores as the flag of an instruction reads the rule definitions and the flags
    of the symbols only -/
theorem matchKnown_congr (d : Decls) (a b : Defs) (hr : b.ruledefs = a.ruledefs) (hk : ∀ r, (b.sym r).known = (a.sym r).known)
    (sc : List String) : ∀ fuel, matchKnown d b sc fuel = matchKnown d a sc fuel ∧ matchKnownArgs d b sc fuel = matchKnownArgs d a sc fuel := by
  have hq : matchQv d b sc = matchQv d a sc := by
    funext level path
    simp only [matchQv, hk]
  have hp : matchP0 d b sc = matchP0 d a sc := by simp only [matchP0, hq]
  intro fuel
  induction fuel with
  | zero =>
    refine ⟨?_, ?_⟩
    · funext m; simp only [matchKnown]
    · funext rule args i pa p; simp only [matchKnownArgs]
  | succ f ih =>
    refine ⟨?_, ?_⟩
    · funext m; simp only [matchKnown, hr, hp, ih.2]
    · funext rule args i pa p
      cases args with
      | nil => simp only [matchKnownArgs]
      | cons x rest => simp only [matchKnownArgs, ih.1, ih.2]

/-- …and the one it stores as the size, the rule definitions only -/
theorem matchStaticSize_congr (a b : Defs) (hr : b.ruledefs = a.ruledefs) :
    ∀ fuel, matchStaticSize b fuel = matchStaticSize a fuel ∧ matchSizeArgs b fuel = matchSizeArgs a fuel := by
  intro fuel
  induction fuel with
  | zero =>
    refine ⟨?_, ?_⟩
    · funext m; simp only [matchStaticSize]
    · funext rule args i p; simp only [matchSizeArgs]
  | succ f ih =>
    refine ⟨?_, ?_⟩
    · funext m; simp only [matchStaticSize, hr, ih.2]
    · funext rule args i p
      cases args with
      | nil => simp only [matchSizeArgs]
      | cons x rest => simp only [matchSizeArgs, ih.1, ih.2]

theorem collectAll_built (d d' : Decls) (nodes nodes' : List AstNode) (hb : Built d.symbols)
    (h : collectAll d nodes = .ok (d', nodes')) : Built d'.symbols :=
  (collectAll_steps h).built hb

theorem frontEnd_built (opts : Opts) (fs : SrcFiles) (roots : List (List Char)) (st : Static) (nodes : List AstNode) (defs : Defs)
    (h : frontEnd opts fs roots = .ok (st, nodes, defs)) : Built st.decls.symbols := by
  obtain ⟨_, _, hp, _, rfl⟩ := frontEnd_ok h
  exact frontEndPre_inv (fun d _ _ => Built d.symbols) (fun d _ _ => Built d.symbols) (fun _ _ => .new "symbol")
    (fun r hb => collectAll_built _ _ _ _ hb r.collect) (fun _ hb => hb) hp

end Casm
