import Casm.Proofs.StableId
import Casm.Proofs.SwitchPass
import Casm.Proofs.Quiet
import Casm.Proofs.Wrote
/-!
# Casm.Proofs.Corner — a stable pass leaves a fixed point of the later pass of the same kind

`cornerL_resolveOnce`: if a pass (first or not) ends stable in `d1`, the pass that is not the first, with the same
`last`, returns `d1` from `d1`, stable, with the same messages.  A stable step either is the step of a later pass and
changed nothing, or froze its own item (`dispatch_dich`), so from any point of the pass to its end the state gains
marks and the entries of frozen items and nothing else (`StEq`).  On the final state a marked item is skipped, and an
item without a mark was not frozen: its step reads the same values and the same own entry as the stable step did, so
it reports the same and, being stable, changes nothing.  The layout reads the banks and the sizes of the items' own
entries, which no other visit writes (`Uniq`, `Other`, `OwnSame`); hence the later pass retraces the stable one, visit
by visit.

This is the one case in which the two settings of the static-value optimisation do not run in lockstep (the optimised
first pass reports "stable": every emitting item was frozen), there with `last = false` (`corner_resolveOnce`); with the
strict first pass of a budget of one it is the fixed-point property of C02 at the budget the other theorems exclude
(`resolveIterativelyN_fixed_point_one`, `resolveIterativelyN_rep_any`).

The names: `cornerG_dispatch`, `cornerG_passNode`, `cornerG_runVisits` are the step, the visit and the fold for any
`last`, and carry the messages along; `cornerL_resolveOnce` is the whole pass in that generality; `corner_passNode`,
`corner_runVisits`, `corner_go`, `corner_passNodes`, `corner_resolveOnce` are their forms for `last = false`, where
nothing is reported (`Casm.Proofs.Quiet`) and the message lists are `[]`.
-/
namespace Casm

structure StEq (a b : Defs) : Prop where
  sv : ∀ r, (b.sym r).value = (a.sym r).value
  sm : ∀ r, (a.sym r).resolved = true → (b.sym r).resolved = true
  res : b.res = a.res
  aligns : b.aligns = a.aligns
  addrs : b.addrs = a.addrs
  banks : b.banks = a.banks
  ruledefs : b.ruledefs = a.ruledefs
  fns : b.fns = a.fns
  im : ∀ ref, (a.instrs.getD ref default).resolved = true → (b.instrs.getD ref default).resolved = true
  dm : ∀ ref, (a.datas.getD ref default).resolved = true → (b.datas.getD ref default).resolved = true
  iu : ∀ ref, (b.instrs.getD ref default).resolved = false → b.instrs.getD ref default = a.instrs.getD ref default
  du : ∀ ref, (b.datas.getD ref default).resolved = false → b.datas.getD ref default = a.datas.getD ref default
  su : ∀ r, (b.sym r).resolved = false → b.sym r = a.sym r
  ifz : ∀ ref, (a.instrs.getD ref default).resolved = true → b.instrs.getD ref default = a.instrs.getD ref default
  dfz : ∀ ref, (a.datas.getD ref default).resolved = true → b.datas.getD ref default = a.datas.getD ref default

theorem StEq.refl (a : Defs) : StEq a a :=
  ⟨fun _ => rfl, fun _ h => h, rfl, rfl, rfl, rfl, rfl, rfl, fun _ h => h, fun _ h => h, fun _ _ => rfl, fun _ _ => rfl, fun _ _ => rfl,
   fun _ _ => rfl, fun _ _ => rfl⟩

theorem StEq.trans {a b c : Defs} (h1 : StEq a b) (h2 : StEq b c) : StEq a c where
  sv r := (h2.sv r).trans (h1.sv r)
  sm r h := h2.sm r (h1.sm r h)
  res := h2.res.trans h1.res
  aligns := h2.aligns.trans h1.aligns
  addrs := h2.addrs.trans h1.addrs
  banks := h2.banks.trans h1.banks
  ruledefs := h2.ruledefs.trans h1.ruledefs
  fns := h2.fns.trans h1.fns
  im r h := h2.im r (h1.im r h)
  dm r h := h2.dm r (h1.dm r h)
  iu r h := have e := h2.iu r h; e.trans (h1.iu r (e ▸ h))
  du r h := have e := h2.du r h; e.trans (h1.du r (e ▸ h))
  su r h := have e := h2.su r h; e.trans (h1.su r (e ▸ h))
  ifz r h := have e := h1.ifz r h; (h2.ifz r (e.symm ▸ h)).trans e
  dfz r h := have e := h1.dfz r h; (h2.dfz r (e.symm ▸ h)).trans e

theorem StEq.view {a b : Defs} (h : StEq a b) : SameView a b := ⟨h.sv, h.banks, h.ruledefs, h.fns⟩

-- `markedS H` where `H` is false everywhere: a marked constant counts, however it came by its mark
abbrev markedA (d : Defs) (n : AstNode) (k : Nat) : Bool := markedS (fun _ => false) d n k

theorem StEq.marked {a b : Defs} (e : StEq a b) {n : AstNode} {k : Nat} (h : markedA a n k = true) : markedA b n k = true := by
  unfold markedA markedS at h ⊢
  split at h
  · exact e.im _ h
  · exact e.dm _ h
  · rw [Bool.not_false, Bool.and_true] at h ⊢; exact e.sm _ h
  · cases h

theorem stEq_freeze_instr (d : Defs) (ref : Nat) (e : BI) (hr : (d.instrs.getD ref default).resolved = false) :
    StEq d { d with instrs := d.instrs.set ref { d.instrs.getD ref default with encoding := e, resolved := true } } := by
  have hset := fun r => getD_set_eq_or d.instrs ref r { d.instrs.getD ref default with encoding := e, resolved := true } default
  refine { StEq.refl d with im := fun r h => ?_, iu := fun r h => ?_, ifz := fun r h => ?_ }
  · rcases hset r with h1 | ⟨rfl, h2⟩
    · exact (congrArg InstrDef.resolved h1).trans h
    · exact congrArg InstrDef.resolved h2
  · rcases hset r with h1 | ⟨rfl, h2⟩
    · exact h1
    · rw [show ({ d with instrs := _ } : Defs).instrs.getD ref default = _ from h2] at h; cases h
  · rcases hset r with h1 | ⟨rfl, _⟩
    · exact h1
    · rw [hr] at h; cases h

theorem stEq_freeze_data (d : Defs) (ref : Nat) (e : BI) (hr : (d.datas.getD ref default).resolved = false) :
    StEq d { d with datas := d.datas.set ref { d.datas.getD ref default with encoding := e, resolved := true } } := by
  have hset := fun r => getD_set_eq_or d.datas ref r { d.datas.getD ref default with encoding := e, resolved := true } default
  refine { StEq.refl d with dm := fun r h => ?_, du := fun r h => ?_, dfz := fun r h => ?_ }
  · rcases hset r with h1 | ⟨rfl, h2⟩
    · exact (congrArg DataDef.resolved h1).trans h
    · exact congrArg DataDef.resolved h2
  · rcases hset r with h1 | ⟨rfl, h2⟩
    · exact h1
    · rw [show ({ d with datas := _ } : Defs).datas.getD ref default = _ from h2] at h; cases h
  · rcases hset r with h1 | ⟨rfl, _⟩
    · exact h1
    · rw [hr] at h; cases h

theorem stEq_mark_sym (d : Defs) (ref : Nat) : StEq d (d.setSym ref { d.sym ref with resolved := true }) := by
  have hset := fun r => sym_setSym d ref r { d.sym ref with resolved := true }
  refine { StEq.refl d with sv := fun r => ?_, sm := fun r h => ?_, su := fun r h => ?_ }
  · rcases hset r with h1 | ⟨rfl, h2⟩
    · rw [h1]
    · rw [h2]
  · rcases hset r with h1 | ⟨rfl, h2⟩
    · rw [h1]; exact h
    · rw [h2]
  · rcases hset r with h1 | ⟨rfl, h2⟩
    · exact h1
    · rw [h2] at h; cases h

theorem Froze.marked {d : Defs} {n : AstNode} {k : Nat} {x y : Defs × Bool × List String} (h : Froze d n k x y) :
    markedA x.1 n k = true := by
  -- the entry written carries the mark, and it exists: its slot held a `known` entry
  cases h with
  | @const _ _ _ _ ref _ v b r hr hk =>
    simp only [markedA, markedS, sym_setSym_lt d ref _ (sym_known_inrange d ref hk), Bool.not_false, Bool.and_self]
  | @instr _ ref _ e b r r' hr hk =>
    simp only [markedA, markedS, getD_set_self_lt d.instrs ref _ default (lt_of_getD_ne fun he => by rw [he] at hk; cases hk)]
  | @data _ _ refs _ e b r r' hr hk =>
    simp only [markedA, markedS, getD_set_self_lt d.datas _ _ default (lt_of_getD_ne fun he => by rw [he] at hk; cases hk)]

theorem dispatch_dich (st : Static) (d d' : Defs) (ctx : RCtx) (n : AstNode) (k : Nat) (r : List String)
    (hok : NodeOK d n) (h : dispatch st d ctx n k = .ok (d', true, r)) :
    StEq d d' ∧ (markedA d' n k = false → d' = d ∧ dispatch st d (ctx.setFirst false) n k = .ok (d, true, r)) := by
  rcases dispatch_mark st d ctx n k with he | ⟨_, x, y, h1, h2, fz⟩
  · rw [h] at he
    obtain rfl : d' = d := dispatch_id st d d' (ctx.setFirst false) n k r rfl hok he
    exact ⟨StEq.refl _, fun _ => ⟨rfl, he⟩⟩
  · obtain rfl : x = (d', true, r) := by rw [h] at h1; exact (Except.ok.inj h1).symm
    refine ⟨?_, fun hu => absurd fz.marked (by rw [hu]; exact Bool.false_ne_true)⟩
    cases fz with
    | @const _ _ _ _ ref _ v b r' hr hk =>
      -- the later step is stable as well: it changed nothing, so `v` is the value the constant had
      have hd := congrArg (fun x => (x.sym ref).value) (dispatch_id st d _ (ctx.setFirst false) _ k r rfl hok h2)
      simp only [sym_setSym_lt d ref _ (sym_known_inrange d ref hk)] at hd
      rw [hd]
      exact stEq_mark_sym d ref
    | instr e b r r' hr hk => exact stEq_freeze_instr d _ e hr
    | data e b r r' hr hk => exact stEq_freeze_data d _ e hr

/-! The flag and the messages of a step read the values and the item's own entry only (`dispatch_flags`). -/

def flagsOf (x : ItemRes) : Except String (Bool × List String) := x.map (·.2)

theorem flagsOf_commit {α} (L : Slot α) (d : Defs) (V : Verdict α) : flagsOf (L.commit d V) = V.map (·.2) := by
  cases V <;> rfl

theorem labelStep_flags (last : Bool) (s s' : SymDef) (h : s'.value = s.value) (x : Int) :
    (labelStep last s' x).map (·.2) = (labelStep last s x).map (·.2) := by
  unfold labelStep; rw [h]; exact converge_flags ..

theorem dispatch_flags (st : Static) (a D : Defs) (e : StEq a D) (ctx : RCtx) (n : AstNode) (k : Nat)
    (hu : markedA D n k = false) :
    flagsOf (dispatch st D ctx n k) = flagsOf (dispatch st a ctx n k) := by
  unfold dispatch
  split
  next level name kind ne ref =>
    cases kind with
    | label =>
      show flagsOf (resolveLabel st D ctx ref) = flagsOf (resolveLabel st a ctx ref)
      rw [resolveLabel_eq, resolveLabel_eq, flagsOf_commit, flagsOf_commit, evalAddress_view e.view]
      cases evalAddress a ctx ctx.canGuess with
      | error m => rfl
      | ok x => exact labelStep_flags _ _ _ (e.sv ref) x
    | constant x =>
      have hr : (D.sym ref).resolved = false := by simpa only [markedA, markedS, Bool.not_false, Bool.and_true] using hu
      show flagsOf (resolveConstant st D ctx ref x) = flagsOf (resolveConstant st a ctx ref x)
      rw [resolveConstant_eq, resolveConstant_eq, flagsOf_commit, flagsOf_commit, resolverEval_view st e.view, e.su ref hr]
  next src ref =>
    rw [resolveInstruction_eq, resolveInstruction_eq, flagsOf_commit, flagsOf_commit, resolveEncoding_congr (.refl st) e.view,
      allDefinite_congr (.refl st) e.view, e.iu ref hu]
  · rw [resolveData_eq, resolveData_eq, flagsOf_commit, flagsOf_commit, resolverEval_view st e.view, e.du _ hu]
  · rw [resolveRes_eq, resolveRes_eq, flagsOf_commit, flagsOf_commit, resolverEval_view st e.view, e.banks, e.res]
  · rw [resolveAlign_eq, resolveAlign_eq, flagsOf_commit, flagsOf_commit, resolverEval_view st e.view, e.aligns]
  · rw [resolveAddr_eq, resolveAddr_eq, flagsOf_commit, flagsOf_commit, resolverEval_view st e.view, e.banks, e.addrs]
  · rw [resolveAssert_eq, resolveAssert_eq, flagsOf_commit, flagsOf_commit, resolverEval_view st e.view]
  · rfl

theorem dispatch_stEq (st : Static) (a D : Defs) (e : StEq a D) (ctx : RCtx) (hf : ctx.first = false) (n : AstNode) (k : Nat)
    (r : List String) (hu : markedA D n k = false) (hok : NodeOK D n)
    (h : dispatch st a ctx n k = .ok (a, true, r)) : dispatch st D ctx n k = .ok (D, true, r) := by
  have hfl := dispatch_flags st a D e ctx n k hu
  rw [h] at hfl
  obtain ⟨⟨D', s, r'⟩, hd, hfl⟩ := map_ok _ _ _ hfl
  cases hfl
  rw [hd, dispatch_id st D D' ctx n k r hf hok hd]

/-- a stable step on an item that can carry a mark reports nothing -/
theorem stable_markable_quiet (st : Static) (d d' X : Defs) (ctx : RCtx) (n : AstNode) (k : Nat) (r : List String)
    (h : dispatch st d ctx n k = .ok (d', true, r)) (hm : markedA X n k = true) : r = [] :=
  dispatch_rep st d d' ctx n k true r h (Or.inl rfl) (Or.inr fun e he => by rw [he] at hm; cases hm)

theorem cornerG_dispatch (st : Static) (d d' D : Defs) (ctx : RCtx) (n : AstNode) (k : Nat) (r : List String)
    (hok : NodeOK d n) (hokD : NodeOK D n) (h : dispatch st d ctx n k = .ok (d', true, r)) (e' : StEq d' D) :
    dispatch st D (ctx.setFirst false) n k = .ok (D, true, r) := by
  obtain ⟨e, hun⟩ := dispatch_dich st d d' ctx n k r hok h
  cases hm : markedA D n k with
  | true =>
    rw [stable_markable_quiet st d d' D ctx n k r h hm]
    exact dispatch_markedS (fun _ => false) st D _ n k hm
  | false =>
    -- an item without a mark was not frozen: the stable step changed nothing and is repeated on `D`
    have hm' : markedA d' n k = false := Bool.eq_false_iff.mpr fun hx => Bool.eq_false_iff.mp hm (e'.marked hx)
    exact dispatch_stEq st d D (e.trans e') _ rfl n k r hm hokD (hun hm').2

theorem visit_cong (st : Static) (a D : Defs) (bk : List Bank) (it : IterSt) (n : AstNode) (k : Nat) :
    visit bk it (nodeItem st D n k) = visit bk it (nodeItem st a n k) := by
  unfold nodeItem
  split
  any_goals rfl
  -- a symbol: of a label `visit` reads the depth, not the value
  next kind _ _ => cases kind <;> rfl

-- the entry of item `(n, k)` itself, whose encoding the layout measures after the step, is in `y` what it is in `x`
def OwnSame (x y : Defs) (n : AstNode) (k : Nat) : Prop :=
  match n with
  | .instr _ (some ref) => y.instrs.getD ref default = x.instrs.getD ref default
  | .data _ _ refs => y.datas.getD (refs.getD k 0) default = x.datas.getD (refs.getD k 0) default
  | _ => True

theorem OwnSame.refl (x : Defs) (n : AstNode) (k : Nat) : OwnSame x x n k := by
  unfold OwnSame; split <;> trivial

theorem OwnSame.trans {x y z : Defs} {n : AstNode} {k : Nat} (h1 : OwnSame x y n k) (h2 : OwnSame y z n k) : OwnSame x z n k := by
  unfold OwnSame at *
  split
  · exact h2.trans h1
  · exact h2.trans h1
  · trivial

theorem nodeItem_own (st : Static) (x y : Defs) (e : StEq x y) (n : AstNode) (k : Nat) (h : OwnSame x y n k) :
    nodeItem st y n k = nodeItem st x n k := by
  unfold nodeItem
  unfold OwnSame at h
  split
  · rfl
  · rfl
  next kind _ r =>
    cases kind with
    | label => simp only [e.sv r]
    | constant _ => rfl
  · simp only at h; rw [h]
  · simp only at h; rw [h]
  · rw [e.res]
  · rw [e.aligns]
  · rw [e.addrs]
  · rfl

/-- the visit `v` is not one of the item `(n, k)`: its step leaves that item's entry alone (`dispatch_other`) -/
def Other (v : Visit) (n : AstNode) (k : Nat) : Prop :=
  match n with
  | .instr _ (some ref) => ∀ src, v.1 ≠ .instr src (some ref)
  | .data _ _ refs => ∀ sz es refs', v.1 = .data sz es refs' → refs'.getD v.2 0 ≠ refs.getD k 0
  | _ => True

theorem dispatch_other {st : Static} {d d' : Defs} {ctx : RCtx} {m : AstNode} {j : Nat} {s : Bool} {r : List String}
    (h : dispatch st d ctx m j = .ok (d', s, r)) {n : AstNode} {k : Nat} (ho : Other (m, j) n k) : OwnSame d d' n k := by
  have w := dispatch_wrote st d d' ctx m j s r h
  unfold Other at ho
  unfold OwnSame
  split
  · exact (w.at_instr _).resolve_right fun ⟨⟨src, e⟩, _⟩ => ho src e
  · exact (w.at_data _).resolve_right fun ⟨⟨sz, es, refs', e, e'⟩, _⟩ => ho sz es refs' e e'
  · trivial

theorem runVisits_facts (st : Static) (first last : Bool) (nodes : List AstNode) (hwf : NoClash nodes)
    {vs : List Visit} {a a1 : PassSt} (hsub : ∀ v ∈ vs, v.1 ∈ nodes) (h : runVisits st first last vs a = .ok a1)
    (hs : a1.stable = true) (hok : NodesOK a.defs nodes) :
    StEq a.defs a1.defs ∧ NodesOK a1.defs nodes ∧ ∀ n k, (∀ v ∈ vs, Other v n k) → OwnSame a.defs a1.defs n k :=
  runVisits_inv (I := fun done x => x.stable = true →
      StEq a.defs x.defs ∧ NodesOK x.defs nodes ∧ ∀ n k, (∀ v ∈ done, Other v n k) → OwnSame a.defs x.defs n k)
    h (fun _ => ⟨StEq.refl _, hok, fun n k _ => OwnSame.refl _ n k⟩)
    (fun done n k rest x x' hsp _ ih hp hs' => by
      have hn : n ∈ nodes := hsub (n, k) (by rw [hsp]; simp)
      obtain ⟨hs0, it, r, _, hd, _⟩ := passNode_inv_stable hp hs'
      obtain ⟨e0, ok0, own0⟩ := ih hs0
      exact ⟨e0.trans (dispatch_dich st x.defs x'.defs _ n k r (ok0 n hn) hd).1,
        nodesOK_step st first last nodes hwf x x' n k hn hp ok0,
        fun m j hf => (own0 m j fun v hv => hf v (List.mem_append_left _ hv)).trans (dispatch_other hd (hf (n, k) (by simp)))⟩) hs

theorem cornerG_passNode (st : Static) (first last : Bool) (a a' : PassSt) (n : AstNode) (k : Nat) (D : Defs)
    (h : passNode st first last a n k = .ok a') (hs : a'.stable = true) (hok : NodeOK a.defs n)
    (e' : StEq a'.defs D) (hokD : NodeOK D n) (hown : nodeItem st D n k = nodeItem st a'.defs n k) :
    ∃ r, a'.reported = a.reported ++ r ∧ ∀ l0, passNode st false last ⟨D, a.it, a.symCtx, true, l0⟩ n k =
      .ok ⟨D, a'.it, a'.symCtx, true, l0 ++ r⟩ := by
  obtain ⟨_, it, r, hv, hd, ha, hsc, hrep⟩ := passNode_inv_stable h hs
  have e1 := (dispatch_dich st a.defs a'.defs _ n k r hok hd).1
  have hdD : dispatch st D ⟨false, last, stepCtx st a.symCtx n, it.bank, it.pos⟩ n k = .ok (D, true, r) :=
    cornerG_dispatch st a.defs a'.defs D ⟨first, last, stepCtx st a.symCtx n, it.bank, it.pos⟩ n k r hok hokD hd e'
  refine ⟨r, hrep, fun l0 => ?_⟩
  rw [← e1.banks] at hv
  rw [passNode_eq']
  -- before the step the layout reads the banks and the kind of the item, after it the size of the item's own entry
  simp only [e'.banks, visit_cong st a.defs D, hv, hdD]
  simp only [hown, ha, hsc, Bool.true_and]

theorem cornerG_runVisits (st : Static) (first last : Bool) (nodes : List AstNode) (hwf : NoClash nodes) (D : Defs)
    (hokD : NodesOK D nodes) {vs : List Visit} {a a1 : PassSt} (hsub : ∀ v ∈ vs, v.1 ∈ nodes)
    (h : runVisits st first last vs a = .ok a1) (hs : a1.stable = true) (hok : NodesOK a.defs nodes) (e1 : StEq a1.defs D)
    (hfree : ∀ done n k rest, vs = done ++ (n, k) :: rest → ∀ v ∈ rest, Other v n k)
    (hown : ∀ v ∈ vs, OwnSame a1.defs D v.1 v.2) (l0 : List String) :
    ∃ t, a1.reported = a.reported ++ t ∧
      runVisits st false last vs ⟨D, a.it, a.symCtx, true, l0⟩ = .ok ⟨D, a1.it, a1.symCtx, true, l0 ++ t⟩ := by
  obtain ⟨_, hb, _, t, ht, rfl⟩ := runVisits_sim (st' := st) (first' := false) (last' := last)
    (R := fun x y => NodesOK x.defs nodes ∧ ∃ t, x.reported = a.reported ++ t ∧ y = ⟨D, x.it, x.symCtx, true, l0 ++ t⟩) h
    (b0 := ⟨D, a.it, a.symCtx, true, l0⟩) ⟨hok, [], by simp, by simp⟩
    fun done n k rest x x' y hsp _ hp hrest ⟨okx, t, ht, hy⟩ => by
      subst hy
      have hn : n ∈ nodes := hsub (n, k) (by rw [hsp]; simp)
      have okx' := nodesOK_step st first last nodes hwf x x' n k hn hp okx
      -- the rest of the run is stable too: it leaves the entry of `(n, k)` alone
      obtain ⟨e2, _, own2⟩ := runVisits_facts st first last nodes hwf (fun v hv => hsub v (by rw [hsp]; simp [hv])) hrest hs okx'
      obtain ⟨r, hr, hq⟩ := cornerG_passNode st first last x x' n k D hp (runVisits_stable_mono hrest hs) (okx n hn) (e2.trans e1)
        (hokD n hn) (nodeItem_own st x'.defs D (e2.trans e1) n k
          ((own2 n k (hfree done n k rest hsp)).trans (hown (n, k) (by rw [hsp]; simp))))
      exact ⟨_, hq _, okx', t ++ r, by rw [hr, ht, List.append_assoc], by rw [List.append_assoc]⟩
  exact ⟨t, ht, hb⟩

theorem Uniq.other_elems {nodes : List AstNode} (u : Uniq nodes) {n : AstNode} (hn : n ∈ nodes) {k j fuel : Nat}
    (hkj : k < j) (hj : j + fuel ≤ nodeElems n) : ∀ v ∈ elemVisits n j fuel, Other v n k := by
  intro v hv
  obtain ⟨h0, h1, h2⟩ := mem_elemVisits.mp (show (v.1, v.2) ∈ _ from hv)
  unfold Other
  split
  · simp only [nodeElems] at hj; omega
  next sz es refs =>
    intro sz' es' refs' he heq
    cases h0.symm.trans he
    simp only [nodeElems] at hj
    have := u.dataIn sz es refs hn v.2 k (by omega) (by omega) heq
    omega
  · trivial

theorem Uniq.other {nodes : List AstNode} (u : Uniq nodes) {done rest : List Visit} {n : AstNode} {k : Nat}
    (h : visits nodes = done ++ (n, k) :: rest) : ∀ v ∈ rest, Other v n k := by
  obtain ⟨pre, post, e1, e2, _, e4⟩ := visits_split h
  intro v hv
  rw [e4] at hv
  rcases List.mem_append.mp hv with hv | hv
  · exact u.other_elems (by rw [e1]; simp) (Nat.lt_succ_self k) (by omega) v hv
  · obtain ⟨hmem, hk'⟩ := mem_visits.mp (show (v.1, v.2) ∈ _ from hv)
    unfold Other
    split
    · exact fun src' he => u.instr pre _ _ post e1 src' (he ▸ hmem)
    · intro sz' es' refs' he heq
      rw [he] at hmem hk'
      exact u.dataOut pre _ _ _ post e1 sz' es' refs' hmem k v.2 (by simpa [nodeElems] using e2)
        (by simpa [nodeElems] using hk') heq.symm
    · trivial

theorem corner_passNode (st : Static) (first : Bool) (a a' : PassSt) (n : AstNode) (k : Nat) (D : Defs)
    (h : passNode st first false a n k = .ok a') (hs : a'.stable = true) (hok : NodeOK a.defs n)
    (e' : StEq a'.defs D) (hokD : NodeOK D n) (hown : nodeItem st D n k = nodeItem st a'.defs n k) :
    passNode st false false ⟨D, a.it, a.symCtx, true, []⟩ n k = .ok ⟨D, a'.it, a'.symCtx, true, []⟩ := by
  obtain ⟨r, hr, hq⟩ := cornerG_passNode st first false a a' n k D h hs hok e' hokD hown
  have hrep : a'.reported = a.reported := runVisits_reported st first (vs := [(n, k)]) (by simp only [runVisits, h])
  rw [hq [], List.self_eq_append_right.mp (hrep.symm.trans hr)]; rfl

theorem corner_runVisits (st : Static) (first : Bool) (nodes : List AstNode) (hwf : NoClash nodes) (D : Defs)
    (hokD : NodesOK D nodes) {vs : List Visit} {a a1 : PassSt} (hsub : ∀ v ∈ vs, v.1 ∈ nodes)
    (h : runVisits st first false vs a = .ok a1) (hs : a1.stable = true) (hok : NodesOK a.defs nodes) (e1 : StEq a1.defs D)
    (hfree : ∀ done n k rest, vs = done ++ (n, k) :: rest → ∀ v ∈ rest, Other v n k)
    (hown : ∀ v ∈ vs, OwnSame a1.defs D v.1 v.2) :
    runVisits st false false vs ⟨D, a.it, a.symCtx, true, []⟩ = .ok ⟨D, a1.it, a1.symCtx, true, []⟩ := by
  obtain ⟨t, ht, hq⟩ := cornerG_runVisits st first false nodes hwf D hokD hsub h hs hok e1 hfree hown []
  rw [hq, List.self_eq_append_right.mp ((runVisits_reported st first h).symm.trans ht)]; rfl

theorem corner_go (st : Static) (first : Bool) (nodes : List AstNode) (hwf : NoClash nodes) (u : Uniq nodes) (D : Defs)
    (hokD : NodesOK D nodes) (n : AstNode) (hn : n ∈ nodes) :
    ∀ (fuel k : Nat) (a a1 : PassSt), k + fuel ≤ nodeElems n → passNodes.go st first false n k fuel a = .ok a1 → a1.stable = true →
      NodesOK a.defs nodes → StEq a1.defs D → (∀ k', k ≤ k' → k' < k + fuel → OwnSame a1.defs D n k') →
      passNodes.go st false false n k fuel ⟨D, a.it, a.symCtx, true, []⟩ = .ok ⟨D, a1.it, a1.symCtx, true, []⟩ := by
  intro fuel k a a1 hkf h hs hok e1 hown
  rw [go_eq] at h ⊢
  have hm : ∀ v ∈ elemVisits n k fuel, v.1 = n ∧ k ≤ v.2 ∧ v.2 < k + fuel := fun v hv =>
    mem_elemVisits.mp (show (v.1, v.2) ∈ _ from hv)
  exact corner_runVisits st first nodes hwf D hokD (fun v hv => (hm v hv).1 ▸ hn) h hs hok e1
    (fun done m j rest hsp => by
      obtain ⟨rfl, h1, h2, _, h4⟩ := elemVisits_split hsp
      rw [h4]; exact u.other_elems hn (Nat.lt_succ_self j) (by omega))
    (fun v hv => by obtain ⟨h0, h1, h2⟩ := hm v hv; rw [h0]; exact hown v.2 h1 h2)

theorem corner_passNodes (st : Static) (first : Bool) (nodes : List AstNode) (hwf : NoClash nodes) (u : Uniq nodes) (D : Defs)
    (hokD : NodesOK D nodes) :
    ∀ (rest pre : List AstNode) (a a1 : PassSt), nodes = pre ++ rest → passNodes st first false rest a = .ok a1 → a1.stable = true →
      NodesOK a.defs nodes → StEq a1.defs D → (∀ n ∈ rest, ∀ k', k' < nodeElems n → OwnSame a1.defs D n k') →
      passNodes st false false rest ⟨D, a.it, a.symCtx, true, []⟩ = .ok ⟨D, a1.it, a1.symCtx, true, []⟩ := by
  intro rest pre a a1 hsplit h hs hok e1 hown
  rw [passNodes_eq] at h ⊢
  have hm : ∀ v ∈ visits rest, v.1 ∈ rest ∧ v.2 < nodeElems v.1 := fun v hv => mem_visits.mp (show (v.1, v.2) ∈ _ from hv)
  exact corner_runVisits st first nodes hwf D hokD
    (fun v hv => by rw [hsplit]; exact List.mem_append_right _ (hm v hv).1) h hs hok e1
    (fun done m j rest' hsp => u.other (done := visits pre ++ done) (by rw [hsplit, visits_append, hsp, List.append_assoc]))
    (fun v hv => hown v.1 (hm v hv).1 v.2 (hm v hv).2)

theorem cornerL_resolveOnce (st : Static) (first last : Bool) (nodes : List AstNode) (hwf : NoClash nodes) (u : Uniq nodes)
    (d0 d1 : Defs) (r1 : List String) (hok0 : NodesOK d0 nodes)
    (h : resolveOnce st nodes first last d0 = .ok (d1, true, r1)) :
    resolveOnce st nodes false last d1 = .ok (d1, true, r1) := by
  have hokD : NodesOK d1 nodes := pass_establishes_ok st nodes first last d0 d1 true r1 h hwf
  obtain ⟨a1, hp, rfl, hs, rfl⟩ := resolveOnce_ok.mp h
  have hsub : ∀ v ∈ visits nodes, v.1 ∈ nodes := fun v hv => (mem_visits.mp (show (v.1, v.2) ∈ _ from hv)).1
  have e : StEq d0 a1.defs := (runVisits_facts st first last nodes hwf hsub hp hs hok0).1
  obtain ⟨t, ht, hq⟩ := cornerG_runVisits st first last nodes hwf a1.defs hokD hsub hp hs hok0 (StEq.refl _)
    (fun _ _ _ _ hsp => u.other hsp) (fun v _ => OwnSame.refl _ v.1 v.2) []
  refine resolveOnce_ok.mpr ⟨⟨a1.defs, a1.it, a1.symCtx, true, [] ++ t⟩, ?_, rfl, rfl, ht.symm⟩
  show runVisits st false last (visits nodes) ⟨a1.defs, initIter a1.defs.banks, [], true, []⟩ = _
  rw [e.banks]; exact hq

theorem corner_resolveOnce (st : Static) (first : Bool) (nodes : List AstNode) (hwf : NoClash nodes) (u : Uniq nodes)
    (d0 d1 : Defs) (r1 : List String) (hok0 : NodesOK d0 nodes)
    (h : resolveOnce st nodes first false d0 = .ok (d1, true, r1)) :
    resolveOnce st nodes false false d1 = .ok (d1, true, []) := by
  have := cornerL_resolveOnce st first false nodes hwf u d0 d1 r1 hok0 h
  rwa [resolveOnce_quiet st nodes first d0 d1 true r1 h] at this

theorem resolveIterativelyN_fixed_point_one (st : Static) (nodes : List AstNode) (hwf : NoClash nodes) (u : Uniq nodes)
    (d0 : Defs) (hok0 : NodesOK d0 nodes) (k : Nat) (d : Defs) (rep : List String)
    (h : resolveIterativelyN st nodes 1 d0 = .ok (k, d, rep)) :
    resolveOnce st nodes false true d = .ok (d, true, rep) := by
  -- no pass but the last: the state it starts from is the initial one, nothing has been reported
  obtain ⟨i, d1, rp, f, r, ⟨rfl, rfl⟩, hp, hrep, _, _⟩ := resolveIterativelyN_ok_inv
    (I := fun i d rp => d = d0 ∧ rp = []) ⟨rfl, rfl⟩ (fun i d rp d1 b r hlt _ _ => absurd hlt (by omega)) h
  rw [hrep]
  exact cornerL_resolveOnce st f true nodes hwf u d1 d r hok0 hp

theorem resolveIterativelyN_rep_any (st : Static) (nodes : List AstNode) (max : Nat) (hmax : 1 ≤ max) (hwf : NoClash nodes)
    (u : Uniq nodes) (d0 : Defs) (hok0 : NodesOK d0 nodes) (k : Nat) (d : Defs) (rep : List String)
    (h : resolveIterativelyN st nodes max d0 = .ok (k, d, rep)) :
    resolveOnce st nodes false true d = .ok (d, true, rep) := by
  by_cases h2 : 2 ≤ max
  · exact resolveIterativelyN_rep st nodes max h2 hwf d0 k d rep h
  · obtain rfl : max = 1 := by omega
    exact resolveIterativelyN_fixed_point_one st nodes hwf u d0 hok0 k d rep h

end Casm
