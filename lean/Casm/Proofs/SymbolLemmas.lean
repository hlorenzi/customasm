import Casm.Model.Symbols
import Casm.Proofs.ListLemmas
import Casm.Proofs.ExceptLemmas
/-!
# Casm.Proofs.SymbolLemmas — the declaration table is a faithful map from dotted paths to declarations

`getParent` is the plain walk (a fold of `assocGet` over the path) and `traverse` is the same walk on a
non-empty path, so everything is proved about `getParent` from the root: in a faithful table
(`WFTable`) it arrives at a parent reference exactly when that is the root or a declaration and the
path walked is its path (`getParent_root_iff`); `lookup_refines_scope` is read off that equivalence.
`declare` is opened once (`declare_spec`); what it keeps (`declare_preserves`, `declare_keeps_lookup`) is read off the
`Extends` it gives.
-/
namespace Casm

theorem traverse_single (m : SymMgr) (parent : Option Nat) (h : String) :
    m.traverse parent [h] = assocGet (m.childrenOf parent) h := by
  rw [SymMgr.traverse]

theorem traverse_cons_cons (m : SymMgr) (parent : Option Nat) (h h2 : String) (rest : List String) :
    m.traverse parent (h :: h2 :: rest) =
      match assocGet (m.childrenOf parent) h with
      | none => none
      | some c => m.traverse (some c) (h2 :: rest) := by
  simp only [SymMgr.traverse]
  cases assocGet (m.childrenOf parent) h <;> rfl

theorem getParent_append (m : SymMgr) (A B : List String) (parent : Option Nat) :
    m.getParent parent (A ++ B) = (m.getParent parent A).bind (fun q => m.getParent q B) := by
  induction A generalizing parent with
  | nil => rfl
  | cons h t ih =>
    simp only [List.cons_append, SymMgr.getParent]
    cases assocGet (m.childrenOf parent) h with
    | none => rfl
    | some c => exact ih (some c)

theorem traverse_eq_some_iff (m : SymMgr) (P : List String) (hP : P ≠ []) (parent : Option Nat) (r : Nat) :
    m.traverse parent P = some r ↔ m.getParent parent P = some (some r) := by
  induction P generalizing parent with
  | nil => exact absurd rfl hP
  | cons h t ih =>
    cases t with
    | nil =>
      simp only [SymMgr.getParent, traverse_single]
      cases assocGet (m.childrenOf parent) h <;> simp
    | cons h2 t2 =>
      rw [traverse_cons_cons, SymMgr.getParent]
      cases assocGet (m.childrenOf parent) h with
      | none => simp
      | some c => exact ih (List.cons_ne_nil _ _) (some c)

def pathOf (m : SymMgr) : Option Nat → List String
  | none => []
  | some p => (m.decls.getD p default).ctx

def InTable (m : SymMgr) : Option Nat → Prop
  | none => True
  | some p => p < m.decls.length

structure WFTable (m : SymMgr) : Prop where
  child_sound : ∀ parent h c, assocGet (m.childrenOf parent) h = some c →
    c < m.decls.length ∧ (m.decls.getD c default).ctx = pathOf m parent ++ [h]
  decl_reachable : ∀ i, i < m.decls.length → ∃ parent h,
    (parent = none ∨ ∃ p, parent = some p ∧ p < i) ∧
    (m.decls.getD i default).ctx = pathOf m parent ++ [h] ∧ assocGet (m.childrenOf parent) h = some i

theorem getParent_sound (m : SymMgr) (wf : WFTable m) (P : List String) (parent q : Option Nat)
    (hin : InTable m parent) (hq : m.getParent parent P = some q) :
    InTable m q ∧ pathOf m q = pathOf m parent ++ P := by
  induction P generalizing parent with
  | nil => cases hq; exact ⟨hin, (List.append_nil _).symm⟩
  | cons h t ih =>
    simp only [SymMgr.getParent] at hq
    cases hc : assocGet (m.childrenOf parent) h with
    | none => rw [hc] at hq; cases hq
    | some c =>
      rw [hc] at hq
      obtain ⟨hlt, hctx⟩ := wf.child_sound parent h c hc
      obtain ⟨hq1, hq2⟩ := ih (some c) hlt hq
      exact ⟨hq1, by rw [hq2, pathOf, hctx, List.append_assoc]; rfl⟩

theorem getParent_complete (m : SymMgr) (wf : WFTable m) :
    ∀ i, i < m.decls.length → m.getParent none (m.decls.getD i default).ctx = some (some i) := by
  intro i
  induction i using Nat.strongRecOn with
  | _ i ih =>
    intro hi
    obtain ⟨parent, h, hpar, hctx, hchild⟩ := wf.decl_reachable i hi
    have hwalk : m.getParent none (pathOf m parent) = some parent := by
      rcases hpar with rfl | ⟨p, rfl, hp⟩
      · rfl
      · exact ih p hp (by omega)
    rw [hctx, getParent_append, hwalk]
    simp only [Option.bind_some, SymMgr.getParent, hchild]

theorem getParent_root_iff (m : SymMgr) (wf : WFTable m) (Q : List String) (parent : Option Nat) :
    m.getParent none Q = some parent ↔ InTable m parent ∧ pathOf m parent = Q := by
  constructor
  · exact getParent_sound m wf Q none parent trivial
  · rintro ⟨hin, rfl⟩
    cases parent with
    | none => rfl
    | some p => exact getParent_complete m wf p hin

theorem path_unique (m : SymMgr) (wf : WFTable m) (i j : Nat) (hi : i < m.decls.length) (hj : j < m.decls.length)
    (h : (m.decls.getD i default).ctx = (m.decls.getD j default).ctx) : i = j := by
  have h1 := getParent_complete m wf i hi
  rw [h, getParent_complete m wf j hj] at h1
  injection h1 with h1
  injection h1 with h1
  exact h1.symm

def Resolves (m : SymMgr) (Q : List String) : Prop :=
  Q = [] ∨ ∃ p, p < m.decls.length ∧ (m.decls.getD p default).ctx = Q

theorem resolves_decl (m : SymMgr) (r : Nat) : Resolves m (m.decls.getD r default).ctx := by
  by_cases h : r < m.decls.length
  · exact Or.inr ⟨r, h, rfl⟩
  · exact Or.inl (by rw [getD_ge' _ _ _ h]; rfl)

theorem resolves_iff (m : SymMgr) (wf : WFTable m) (Q : List String) :
    Resolves m Q ↔ ∃ parent, m.getParent none Q = some parent := by
  constructor
  · rintro (rfl | ⟨p, hp, rfl⟩)
    · exact ⟨none, rfl⟩
    · exact ⟨some p, getParent_complete m wf p hp⟩
  · rintro ⟨parent, h⟩
    obtain ⟨hin, hpath⟩ := (getParent_root_iff m wf Q parent).1 h
    cases parent with
    | none => exact Or.inl hpath.symm
    | some p => exact Or.inr ⟨p, hin, hpath⟩

/-- customasm's scope rule: a reference with `level` leading dots denotes the declaration whose dotted path is the first
    `level` components of the context followed by the reference's own path -/
theorem lookup_refines_scope (m : SymMgr) (wf : WFTable m) (ctx : List String) (level : Nat) (path : List String) (r : Nat)
    (hl : level ≤ ctx.length) (hres : Resolves m (ctx.take level)) (hp : path ≠ []) :
    m.tryGetByName ctx level path = some r ↔
      r < m.decls.length ∧ (m.decls.getD r default).ctx = ctx.take level ++ path := by
  obtain ⟨parent, hpar⟩ := (resolves_iff m wf _).1 hres
  -- the walk from the root along `ctx.take level ++ path` is the walk to `parent`, then along `path`
  have hwalk := getParent_root_iff m wf (ctx.take level ++ path) (some r)
  rw [getParent_append, hpar] at hwalk
  rw [SymMgr.tryGetByName, if_neg (Nat.not_lt.2 hl), hpar]
  exact (traverse_eq_some_iff m path hp parent r).trans hwalk

theorem lookup_unknown (m : SymMgr) (wf : WFTable m) (ctx : List String) (level : Nat) (path : List String)
    (hl : level ≤ ctx.length) (hres : Resolves m (ctx.take level)) (hp : path ≠ [])
    (hno : ∀ r, r < m.decls.length → (m.decls.getD r default).ctx ≠ ctx.take level ++ path) :
    m.tryGetByName ctx level path = none := by
  cases h : m.tryGetByName ctx level path with
  | none => rfl
  | some r =>
    have := (lookup_refines_scope m wf ctx level path r hl hres hp).mp h
    exact absurd this.2 (hno r this.1)

theorem resolves_take (m : SymMgr) (wf : WFTable m) (C : List String)
    (hC : C = [] ∨ ∃ i, i < m.decls.length ∧ (m.decls.getD i default).ctx = C) (level : Nat) : Resolves m (C.take level) := by
  obtain ⟨parent, h⟩ := (resolves_iff m wf C).1 hC
  rw [← List.take_append_drop level C, getParent_append] at h
  rw [resolves_iff m wf]
  cases hq : m.getParent none (C.take level) with
  | none => rw [hq] at h; cases h
  | some q => exact ⟨q, rfl⟩

/-! ## `declare` keeps the table faithful -/

theorem assocGet_append_single (l : List (String × Nat)) (name h : String) (idx c : Nat) :
    assocGet (l ++ [(name, idx)]) h = some c ↔
      assocGet l h = some c ∨ (assocGet l h = none ∧ h = name ∧ c = idx) := by
  unfold assocGet
  rw [List.find?_append, Option.map_or, List.find?_singleton]
  cases (l.find? (·.1 == h)).map (·.2) with
  | some c' => simp
  | none =>
    by_cases hn : name = h
    · subst hn; simp [eq_comm]
    · simp [hn, Ne.symm hn]

theorem childrenOf_out_of_range (m : SymMgr) (q : Nat) (h : m.decls.length ≤ q) : m.childrenOf (some q) = [] := by
  rw [SymMgr.childrenOf, getD_ge' _ _ _ (Nat.not_lt.mpr h)]
  rfl

theorem inTable_of_child {m : SymMgr} {parent : Option Nat} {h : String} {c : Nat}
    (hc : assocGet (m.childrenOf parent) h = some c) : InTable m parent := by
  cases parent with
  | none => trivial
  | some q =>
    refine Nat.lt_of_not_le fun hq => ?_
    rw [childrenOf_out_of_range m q hq] at hc
    cases hc

/-- all that the front-end invariants (`KindInv`, `FrontInv`, `TwoFront`) use of a declaration pass: the table only grows, and
    an entry that was there keeps everything but its children -/
def DeclExt (m m' : SymMgr) : Prop :=
  m.decls.length ≤ m'.decls.length ∧
  ∀ i, i < m.decls.length → ∃ c, m'.decls.getD i default = { m.decls.getD i default with children := c }

theorem DeclExt.refl (m : SymMgr) : DeclExt m m := ⟨Nat.le_refl _, fun _ _ => ⟨_, rfl⟩⟩

theorem DeclExt.trans {a b c : SymMgr} (h1 : DeclExt a b) (h2 : DeclExt b c) : DeclExt a c :=
  ⟨Nat.le_trans h1.1 h2.1, fun i hi => by
    obtain ⟨c1, e1⟩ := h1.2 i hi
    obtain ⟨c2, e2⟩ := h2.2 i (Nat.lt_of_lt_of_le hi h1.1)
    exact ⟨c2, by rw [e2, e1]⟩⟩

theorem DeclExt.kind {m m' : SymMgr} (h : DeclExt m m') {i : Nat} (hi : i < m.decls.length) :
    (m'.decls.getD i default).kind = (m.decls.getD i default).kind := by
  obtain ⟨c, e⟩ := h.2 i hi; rw [e]

theorem DeclExt.name {m m' : SymMgr} (h : DeclExt m m') {i : Nat} (hi : i < m.decls.length) :
    (m'.decls.getD i default).name = (m.decls.getD i default).name := by
  obtain ⟨c, e⟩ := h.2 i hi; rw [e]

/-- what a successful `declare` does to the table, entry by entry -/
structure Extends (m m' : SymMgr) (parent : Option Nat) (name : String) (kind : DeclKind) (path : List String) : Prop where
  fresh : assocGet (m.childrenOf parent) name = none
  len : m'.decls.length = m.decls.length + 1
  new : ∃ fullName depth, m'.decls.getD m.decls.length default = ⟨fullName, kind, depth, path, []⟩
  old : ∀ i, i < m.decls.length → m'.decls.getD i default =
    if parent = some i then { m.decls.getD i default with children := (m.decls.getD i default).children ++ [(name, m.decls.length)] }
    else m.decls.getD i default
  globals : m'.globals = if parent = none then m.globals ++ [(name, m.decls.length)] else m.globals

theorem declare_spec {m m' : SymMgr} {ctx : List String} {name : String} {level : Nat} {kind : DeclKind} {idx : Nat}
    (h : m.declare ctx name level kind = .ok (idx, m')) :
    level ≤ ctx.length ∧ idx = m.decls.length ∧
      Extends m m' ((m.getParent none (ctx.take level)).getD none) name kind (ctx.take level ++ [name]) := by
  unfold SymMgr.declare at h
  obtain ⟨hl, h⟩ := guard_ok h
  generalize (m.getParent none (List.take level ctx)).getD none = parent at h ⊢
  obtain ⟨hdup, h⟩ := guard_ok h
  cases h
  have hfresh : assocGet (m.childrenOf parent) name = none := Option.not_isSome_iff_eq_none.mp hdup
  cases parent with
  | none =>
    refine ⟨Nat.le_of_not_lt hl, rfl, hfresh, List.length_append, ⟨name, level, ?_⟩, fun i hi => ?_, rfl⟩
    · simp only [List.getD_eq_getElem?_getD, List.getElem?_concat_length, Option.getD_some]
    · simp only [List.getD_eq_getElem?_getD, List.getElem?_append_left hi, reduceCtorEq, if_false]
  | some p =>
    refine ⟨Nat.le_of_not_lt hl, rfl, hfresh, ?_, ⟨(m.decls.getD p default).name ++ "." ++ name, level, ?_⟩, fun i hi => ?_, rfl⟩
    · simp only [List.length_append, List.length_modify, List.length_singleton]
    · simp only [List.getD_eq_getElem?_getD, List.getElem?_append_right (Nat.le_of_eq (List.length_modify ..)),
        List.length_modify, Nat.sub_self, List.getElem?_cons_zero, Option.getD_some]
    · simp only [List.getD_eq_getElem?_getD, List.getElem?_append, List.length_modify, if_pos hi, List.getElem?_modify,
        List.getElem?_eq_getElem hi, Option.map_eq_map, Option.map_some, Option.getD_some, Option.some.injEq]

theorem declare_kind {m m' : SymMgr} {ctx : List String} {name : String} {level : Nat} {kind : DeclKind} {idx : Nat}
    (h : m.declare ctx name level kind = .ok (idx, m')) : idx < m'.decls.length ∧ (m'.decls.getD idx default).kind = kind := by
  obtain ⟨_, rfl, ex⟩ := declare_spec h
  obtain ⟨_, _, e⟩ := ex.new
  exact ⟨by rw [ex.len]; exact Nat.lt_succ_self _, by rw [e]⟩

theorem Extends.declExt {m m' : SymMgr} {parent : Option Nat} {name : String} {kind : DeclKind} {path : List String}
    (ex : Extends m m' parent name kind path) : DeclExt m m' :=
  ⟨by rw [ex.len]; exact Nat.le_succ _, fun i hi => by rw [ex.old i hi]; split <;> exact ⟨_, rfl⟩⟩

theorem Extends.kids {m m' : SymMgr} {parent : Option Nat} {name : String} {kind : DeclKind} {path : List String}
    (ex : Extends m m' parent name kind path) (hin : InTable m parent) (par : Option Nat) :
    m'.childrenOf par = if parent = par then m.childrenOf par ++ [(name, m.decls.length)] else m.childrenOf par := by
  cases par with
  | none => rw [SymMgr.childrenOf, ex.globals]; rfl
  | some q =>
    rcases Nat.lt_trichotomy q m.decls.length with hq | rfl | hq
    · show (m'.decls.getD q default).children = _
      rw [ex.old q hq, apply_ite SymDecl.children]
      rfl
    · -- the new declaration has no children, and is not the parent
      obtain ⟨_, _, e⟩ := ex.new
      have hne : parent ≠ some m.decls.length := fun e => Nat.lt_irrefl _ (e ▸ hin : InTable m (some _))
      rw [if_neg hne, childrenOf_out_of_range m _ (Nat.le_refl _)]
      show (m'.decls.getD m.decls.length default).children = []
      rw [e]
    · have hne : parent ≠ some q := fun e => Nat.lt_asymm hq (e ▸ hin : InTable m (some _))
      rw [if_neg hne, childrenOf_out_of_range m q (Nat.le_of_lt hq), childrenOf_out_of_range m' q (by rw [ex.len]; exact hq)]

theorem Extends.child_iff {m m' : SymMgr} {parent : Option Nat} {name : String} {kind : DeclKind} {path : List String}
    (ex : Extends m m' parent name kind path) (hin : InTable m parent) (par : Option Nat) (h : String) (c : Nat) :
    assocGet (m'.childrenOf par) h = some c ↔
      assocGet (m.childrenOf par) h = some c ∨ (par = parent ∧ h = name ∧ c = m.decls.length) := by
  rw [ex.kids hin]
  split
  · subst ‹parent = par›
    rw [assocGet_append_single]
    -- for `h = name` the old table has no entry, by `fresh`
    exact or_congr_right ⟨fun ⟨_, e⟩ => ⟨rfl, e⟩, fun ⟨_, e⟩ => ⟨e.1 ▸ ex.fresh, e⟩⟩
  · exact (or_iff_left fun hnew => ‹¬parent = par› hnew.1.symm).symm

theorem Extends.wf {m m' : SymMgr} {parent : Option Nat} {name : String} {kind : DeclKind} (wf : WFTable m)
    (ex : Extends m m' parent name kind (pathOf m parent ++ [name])) (hin : InTable m parent) : WFTable m' := by
  have old_ctx : ∀ i, i < m.decls.length → (m'.decls.getD i default).ctx = (m.decls.getD i default).ctx := fun i hi => by
    rw [ex.old i hi]; split <;> rfl
  have pathOf_old : ∀ par, InTable m par → pathOf m' par = pathOf m par
    | none, _ => rfl
    | some q, hq => old_ctx q hq
  have hlen := ex.len
  have sound : ∀ par h c, assocGet (m'.childrenOf par) h = some c →
      c < m'.decls.length ∧ (m'.decls.getD c default).ctx = pathOf m' par ++ [h] := by
    intro par h c hc
    rcases (ex.child_iff hin par h c).1 hc with hold | ⟨rfl, rfl, rfl⟩
    · obtain ⟨hlt, hctx⟩ := wf.child_sound par h c hold
      exact ⟨by omega, by rw [old_ctx c hlt, hctx, pathOf_old par (inTable_of_child hold)]⟩
    · obtain ⟨_, _, e⟩ := ex.new
      exact ⟨by omega, by rw [e, pathOf_old par hin]⟩
  -- the path of a declaration is given by `sound` at the entry that points to it
  refine ⟨sound, fun i hi => ?_⟩
  by_cases hlt : i < m.decls.length
  · obtain ⟨par, h, hpar, _, hchild⟩ := wf.decl_reachable i hlt
    have hc := (ex.child_iff hin par h i).2 (Or.inl hchild)
    exact ⟨par, h, hpar, (sound par h i hc).2, hc⟩
  · obtain rfl : i = m.decls.length := by omega
    have hc := (ex.child_iff hin parent name _).2 (Or.inr ⟨rfl, rfl, rfl⟩)
    refine ⟨parent, name, ?_, (sound parent name _ hc).2, hc⟩
    cases parent with
    | none => exact Or.inl rfl
    | some p => exact Or.inr ⟨p, rfl, hin⟩

theorem declare_preserves (m m' : SymMgr) (wf : WFTable m) (ctx : List String) (name : String) (level : Nat) (kind : DeclKind) (idx : Nat)
    (hres : Resolves m (ctx.take level)) (h : m.declare ctx name level kind = .ok (idx, m')) :
    WFTable m' ∧ idx = m.decls.length ∧ m'.decls.length = m.decls.length + 1 ∧
      (m'.decls.getD idx default).ctx = ctx.take level ++ [name] ∧
      ∀ i, i < m.decls.length → (m'.decls.getD i default).ctx = (m.decls.getD i default).ctx := by
  obtain ⟨parent, hpar⟩ := (resolves_iff m wf _).1 hres
  obtain ⟨hin, hpath⟩ := (getParent_root_iff m wf _ parent).1 hpar
  obtain ⟨_, rfl, ex⟩ := declare_spec h
  rw [hpar, Option.getD_some, ← hpath] at ex
  obtain ⟨_, _, e⟩ := ex.new
  exact ⟨ex.wf wf hin, rfl, ex.len, by rw [e, hpath], fun i hi => by rw [ex.old i hi]; split <;> rfl⟩

theorem declare_keeps_lookup {m m' : SymMgr} (wf : WFTable m) {ctx : List String} {name : String} {level : Nat} {kind : DeclKind} {idx : Nat}
    (hres : Resolves m (ctx.take level)) (h : m.declare ctx name level kind = .ok (idx, m'))
    {uctx : List String} {ulevel : Nat} {upath : List String} {r : Nat} (hures : Resolves m (uctx.take ulevel))
    (hul : ulevel ≤ uctx.length) (hup : upath ≠ []) (hfound : m.tryGetByName uctx ulevel upath = some r) :
    m'.tryGetByName uctx ulevel upath = some r := by
  obtain ⟨wf', _, hlen, _, hold⟩ := declare_preserves m m' wf ctx name level kind idx hres h
  obtain ⟨hr, hrc⟩ := (lookup_refines_scope m wf uctx ulevel upath r hul hures hup).mp hfound
  refine (lookup_refines_scope m' wf' uctx ulevel upath r hul ?_ hup).mpr ⟨by omega, by rw [hold r hr]; exact hrc⟩
  exact hures.imp_right fun ⟨p, hp, hc⟩ => ⟨p, by omega, by rw [hold p hp]; exact hc⟩

theorem new_wf (reportAs : String) : WFTable (SymMgr.new reportAs) := by
  constructor
  · intro parent h c hc
    have hin := inTable_of_child hc
    cases parent with
    | none => cases hc
    | some q => cases hin
  · intro i hi; cases hi

/-- tables as the assembler builds them: from the empty table by successful declarations, each
    made in the root context or in the context left by an earlier declaration -/
inductive Built : SymMgr → Prop
  | new (reportAs : String) : Built (SymMgr.new reportAs)
  | declare {m m' : SymMgr} {ctx : List String} {name : String} {level : Nat} {kind : DeclKind} {idx : Nat} :
      Built m → (ctx = [] ∨ ∃ i, i < m.decls.length ∧ (m.decls.getD i default).ctx = ctx) →
      m.declare ctx name level kind = .ok (idx, m') → Built m'

theorem built_wf {m : SymMgr} (h : Built m) : WFTable m := by
  induction h with
  | new r => exact new_wf r
  | declare _ hctx hd ih => exact (declare_preserves _ _ ih _ _ _ _ _ (resolves_take _ ih _ hctx _) hd).1

end Casm
