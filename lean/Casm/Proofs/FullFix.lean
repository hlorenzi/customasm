import Casm.Proofs.ItemStep
import Casm.Proofs.StableId
import Casm.Proofs.RecomputeS
import Casm.Proofs.Frozen
import Casm.Proofs.SwitchPass
import Casm.Proofs.Quiet
import Casm.Proofs.Corner
/-!
# Casm.Proofs.FullFix — the final state recomputes to itself with the marks of instructions and data cleared

From the invariant `Good`: every marked instruction recomputes, in the final state, to the frozen
encoding (`instr_recomputes_off`, by `frozen_instruction_sound`), every marked data element to its frozen
bits (`data_recomputes_off`, by `pure_static_eval`); both are stated of the unoptimised assembler on
`d.unfS H`, the form `Casm.Proofs.SwitchSim` uses.  Hence (`good_recomputesAll`, `Good.resolveOnce_uf`) the
final state of a successful assembly, with the first-pass marks of instructions and data elements cleared
(`Defs.unfreeze`; a marked constant stays marked and is skipped: `GoodC` in `Casm.Proofs.Frozen` is about
those), is a fixed point of the strict pass: `resolveIterativelyN_full_fixed_point` for a budget of at
least two passes, `resolveIterativelyN_full_fixed_point_any` from a budget of one pass, where the final
state is a fixed point by `Casm.Proofs.Corner` (hence `Uniq` and `NodesOK` of the initial state).
-/
namespace Casm

theorem instr_recomputes_off (H : Nat → Bool) (st : Static) (nodes : List AstNode) (d0 d : Defs) (g : Good st nodes d0 d)
    (pre : List AstNode) (src : List Char) (ref : Nat) (post : List AstNode) (hsplit : nodes = pre ++ .instr src (some ref) :: post)
    (hm : (d.instrs.getD ref default).resolved = true) (ctx : RCtx)
    (hc : ctx.symCtx = ctxAfter st [] (pre ++ [.instr src (some ref)])) :
    resolveInstruction (st.withStatic false) (d.unfS H) ctx ref = .ok (d.unfS H, true, []) := by
  obtain ⟨s1, ctx1, encs, rp, e, hrd, hval, hctx, hknown, hdef, henc, hlen, hhead, hstored⟩ := g.hi ref hm
  have hsc : ctx.symCtx = ctx1.symCtx := (hc.trans (ctxAfter_snoc st [] pre _)).trans (hctx pre src post hsplit).symm
  -- the candidates evaluate in the final state as they did when the instruction was frozen
  have hrec := frozen_instruction_sound st d0 s1 d ctx1 ctx ⟨hrd, g.rd, hsc, hval⟩ 64 _
    (fun c hc => by obtain ⟨mi, hmi, rfl⟩ := List.mem_map.mp hc; exact hknown mi hmi) hdef encs rp henc hlen
  have hI := unfS_instr H d ref
  have hr : ((d.unfS H).instrs.getD ref default).resolved = false := by rw [hI]
  have hcd : ((d.unfS H).instrs.getD ref default).cands = (d0.instrs.getD ref default).cands := by rw [hI]; exact (g.ic ref).1
  rw [resolveInstruction_eq, hr, hcd, resolveEncoding_congr (.withStatic st false) (unfS_view H d), hrec]
  rw [if_neg Bool.false_ne_true, bind_ok, off_opt, Bool.false_and,
    instrStep_same _ _ encs e [] _ hhead (by rw [hI]; exact hstored)]
  exact commit_get (instrSlot ref) _ true [] (by simp only [instrSlot, set_getD_self])

theorem data_recomputes_off (H : Nat → Bool) (st : Static) (nodes : List AstNode) (d0 d : Defs) (g : Good st nodes d0 d)
    (pre : List AstNode) (sz : Option Nat) (es : List Expr) (refs : List Nat) (post : List AstNode) (k : Nat)
    (hsplit : nodes = pre ++ .data sz es refs :: post) (hk : k < es.length)
    (hm : (d.datas.getD (refs.getD k 0) default).resolved = true) (ctx : RCtx) :
    resolveData (st.withStatic false) (d.unfS H) ctx (refs.getD k 0) sz (es.getD k default) = .ok (d.unfS H, true, []) := by
  obtain ⟨v, c, b0, hev, henc, hck, hstored⟩ := g.hd _ hm pre sz es refs post k hsplit hk rfl
  have hX := unfS_data H d (refs.getD k 0)
  have hr : ((d.unfS H).datas.getD (refs.getD k 0) default).resolved = false := by rw [hX]
  rw [resolveData_eq, hr, resolverEval_switch st false (unfS_view H d), hev]
  rw [if_neg Bool.false_ne_true, bind_ok, off_opt, Bool.false_and,
    dataStep_same _ sz _ v b0 henc hck (by rw [hX]; exact hstored)]
  exact commit_get (dataSlot _) _ true [] (by simp only [dataSlot, set_getD_self])

theorem good_recomputesAll (st : Static) (nodes : List AstNode) (d0 d : Defs) (g : Good st nodes d0 d) :
    RecomputesAll st d [] nodes := by
  intro pre n post k hsplit hk hm ctx hf hc
  -- in a pass that is not the first the static switch plays no part
  rw [← dispatch_switch st false d.unfreeze ctx n k hf, ← unfS_true]
  unfold marked at hm
  split at hm
  · exact instr_recomputes_off _ st nodes d0 d g pre _ _ post hsplit hm ctx hc
  · exact data_recomputes_off _ st nodes d0 d g pre _ _ _ post k hsplit (by simpa [nodeElems] using hk) hm ctx
  · cases hm

theorem Good.resolveOnce_uf {st : Static} {nodes : List AstNode} {d0 d : Defs} (g : Good st nodes d0 d) (hwf : NoClash nodes)
    {last : Bool} {rep : List String} (hfix : resolveOnce st nodes false last d = .ok (d, true, rep)) :
    resolveOnce st nodes false last d.unfreeze = .ok (d.unfreeze, true, rep) :=
  Casm.resolveOnce_uf st nodes last d rep hfix (pass_establishes_ok st nodes false last d d true rep hfix hwf)
    (good_recomputesAll st nodes d0 d g)

theorem resolveIterativelyN_full_fixed_point (st : Static) (nodes : List AstNode) (d0 : Defs) (f : FrontOK st nodes d0)
    (max : Nat) (hmax : 2 ≤ max) (ho : st.opts.optStatic = true) (hwf : NoClash nodes)
    (k : Nat) (d : Defs) (rep : List String) (h : resolveIterativelyN st nodes max d0 = .ok (k, d, rep)) :
    ∃ r pre, resolveOnce st nodes false true d.unfreeze = .ok (d.unfreeze, true, r) ∧ rep = pre ++ r :=
  -- `pre` is `[]`: the passes before the confirming one report nothing (`resolveIterativelyN_rep`)
  ⟨rep, [], (resolveIterativelyN_good st nodes d0 f max ho (by omega) k d rep h).resolveOnce_uf hwf
    (resolveIterativelyN_rep st nodes max hmax hwf d0 k d rep h), rfl⟩

theorem resolveIterativelyN_full_fixed_point_any (st : Static) (nodes : List AstNode) (d0 : Defs) (f : FrontOK st nodes d0)
    (max : Nat) (hmax : 1 ≤ max) (ho : st.opts.optStatic = true) (hwf : NoClash nodes) (u : Uniq nodes) (hok0 : NodesOK d0 nodes)
    (k : Nat) (d : Defs) (rep : List String) (h : resolveIterativelyN st nodes max d0 = .ok (k, d, rep)) :
    ∃ r pre, resolveOnce st nodes false true d.unfreeze = .ok (d.unfreeze, true, r) ∧ rep = pre ++ r :=
  -- the conclusion has the form of the theorem above; `pre` is `[]` here as well
  ⟨rep, [], (resolveIterativelyN_good st nodes d0 f max ho hmax k d rep h).resolveOnce_uf hwf
    (resolveIterativelyN_rep_any st nodes max hmax hwf u d0 hok0 k d rep h), rfl⟩

end Casm
