import Casm.Model.ExprEval
import Casm.Proofs.BitsLemmas
/-!
# Casm.Proofs.ExprLemmas — the integer operators of the evaluator, by bits and by magnitude

An integer is a natural number `m` or `-m - 1`, and the bits of the second are those of `m` complemented (`tbit_ofNat`,
`tbit_negSucc`): hence the bits of `intNot`, of `intBitwise f` and of a concatenation `a * 2 ^ k + b`.  `shrInt` is `>>>`.
`bitLen` of sums, differences, products and shifts: the quantities `checkedAdd` … `checkedShl` test before they compute.
-/
namespace Casm

theorem tbit_intNot (x : Int) (i : Nat) : tbit (intNot x) i = !tbit x i := by
  unfold intNot
  rcases Int.lt_or_le x 0 with h | h
  · obtain ⟨m, rfl⟩ : ∃ m : Nat, x = -(m : Int) - 1 := ⟨(-x - 1).toNat, by omega⟩
    have : -(-(m : Int) - 1) - 1 = (m : Int) := by omega
    rw [this, tbit_ofNat, tbit_negSucc, Bool.not_not]
  · obtain ⟨m, rfl⟩ : ∃ m : Nat, x = (m : Int) := ⟨x.toNat, by omega⟩
    rw [tbit_negSucc, tbit_ofNat]

theorem tbit_repr (x : Int) (i : Nat) :
    tbit x i = ((mag x).testBit i != decide (x < 0)) := by
  unfold mag
  rcases Int.lt_or_le x 0 with h | h
  · obtain ⟨m, rfl⟩ : ∃ m : Nat, x = -(m : Int) - 1 := ⟨(-x - 1).toNat, by omega⟩
    have e1 : (-(-(m : Int) - 1) - 1).toNat = m := by omega
    rw [if_pos h, e1, tbit_negSucc, decide_eq_true h, Bool.bne_true]
  · obtain ⟨m, rfl⟩ : ∃ m : Nat, x = (m : Int) := ⟨x.toNat, by omega⟩
    have h1 : ¬ ((m : Int) < 0) := by omega
    rw [if_neg h1, Int.toNat_natCast, tbit_ofNat, decide_eq_false h1, Bool.bne_false]

theorem tbit_bitwiseCore (f : Bool → Bool → Bool) (nx ny : Bool) (a b i : Nat) :
    tbit (bitwiseCore f nx ny a b) i = f (a.testBit i != nx) (b.testBit i != ny) := by
  unfold bitwiseCore
  -- `Nat.bitwise` wants a bit function with `false, false ↦ false`: the flip by `f nx ny` makes it one
  have h0 : ((f (false != nx) (false != ny)) != f nx ny) = false := by
    rw [Bool.false_bne, Bool.false_bne, bne_self_eq_false]
  dsimp only
  generalize f nx ny = s at h0 ⊢
  cases s with
  | false => rw [if_neg Bool.false_ne_true, tbit_ofNat, Nat.testBit_bitwise h0, Bool.bne_false]
  | true => rw [if_pos rfl, tbit_negSucc, Nat.testBit_bitwise h0, Bool.bne_true, Bool.not_not]

theorem tbit_intBitwise (f : Bool → Bool → Bool) (x y : Int) (i : Nat) :
    tbit (intBitwise f x y) i = f (tbit x i) (tbit y i) := by
  rw [tbit_repr x i, tbit_repr y i]
  exact tbit_bitwiseCore f _ _ _ _ i

theorem tbit_mul_pow_add (a b : Int) (k i : Nat) (hb0 : 0 ≤ b) (hb : b < 2 ^ k) :
    tbit (a * 2 ^ k + b) i = if i < k then tbit b i else tbit a (i - k) := by
  have hpk : (0 : Int) < 2 ^ k := Int.pow_pos (by decide)
  by_cases h : i < k
  · -- low bits: both sides are bit `i` of the remainder modulo `2 ^ k`
    have h1 := tbit_emod_pow (a * 2 ^ k + b) k i
    have h2 := tbit_emod_pow b k i
    rw [decide_eq_true h, Bool.true_and] at h1 h2
    rw [if_pos h, ← h1, ← h2, Int.add_comm, Int.mul_comm, Int.add_mul_emod_self_left]
  · obtain ⟨j, rfl⟩ : ∃ j, i = k + j := ⟨i - k, by omega⟩
    have hq : (a * 2 ^ k + b) / 2 ^ k = a := by
      rw [Int.add_comm, Int.mul_comm, Int.add_mul_ediv_left _ _ (by omega), Int.ediv_eq_zero_of_lt hb0 hb]; omega
    rw [if_neg h, Nat.add_sub_cancel_left, tbit_eq, tbit_eq, Int.pow_add, ← Int.ediv_ediv_of_nonneg (Int.le_of_lt hpk), hq]

theorem shrInt_eq (l : Int) (n : Nat) : shrInt l n = l >>> n := by
  unfold shrInt
  by_cases h : bitLen l ≤ n
  · -- `|l| < 2 ^ n`: the quotient is `-1` for a negative `l` and `0` otherwise
    have hlt : l.natAbs < 2 ^ n := (nbits_le_iff _ _).mp h
    have hp : (0 : Int) < ((2 ^ n : Nat) : Int) := Int.natCast_pos.2 (Nat.two_pow_pos n)
    rw [if_pos h, Int.shiftRight_eq_div_pow]
    by_cases hneg : l < 0
    · have : l / ((2 ^ n : Nat) : Int) = -1 ∧ l % ((2 ^ n : Nat) : Int) = l + ((2 ^ n : Nat) : Int) := by
        rw [Int.ediv_emod_unique hp]
        refine ⟨by omega, by omega, by omega⟩
      rw [if_pos hneg]; exact this.1.symm
    · rw [if_neg hneg]; exact (Int.ediv_eq_zero_of_lt (by omega) (by omega)).symm
  · rw [if_neg h]

theorem toUsize_natCast {n : Nat} (h : n < 2 ^ 64) : toUsize (n : Int) = some n := by
  rw [toUsize, if_pos ⟨Int.natCast_nonneg n, Int.ofNat_lt.2 h⟩, Int.toNat_natCast]

theorem bitLen_le_iff (x : Int) (k : Nat) : bitLen x ≤ k ↔ x.natAbs < 2 ^ k := nbits_le_iff _ _

theorem natAbs_lt_bitLen (x : Int) : x.natAbs < 2 ^ bitLen x := (bitLen_le_iff x _).1 (Nat.le_refl _)

theorem bitLen_add_le (l r : Int) : bitLen (l + r) ≤ max (bitLen l) (bitLen r) + 1 := by
  have hl := (bitLen_le_iff l _).1 (Nat.le_max_left (bitLen l) (bitLen r))
  have hr := (bitLen_le_iff r _).1 (Nat.le_max_right (bitLen l) (bitLen r))
  have := Int.natAbs_add_le l r
  rw [bitLen_le_iff, Nat.pow_succ]
  omega

theorem bitLen_sub_le (l r : Int) : bitLen (l - r) ≤ max (bitLen l) (bitLen r) + 1 := by
  have h := bitLen_add_le l (-r)
  rwa [bitLen, bitLen, bitLen, Int.natAbs_neg, ← Int.sub_eq_add_neg] at h

theorem bitLen_mul_le (l r : Int) : bitLen (l * r) ≤ bitLen l + bitLen r := by
  rw [bitLen_le_iff, Int.natAbs_mul, Nat.pow_add]
  exact Nat.mul_lt_mul'' (natAbs_lt_bitLen l) (natAbs_lt_bitLen r)

theorem bitLen_mul_two_pow (l : Int) (n : Nat) : bitLen (l * (2 ^ n : Nat)) ≤ bitLen l + n := by
  rw [bitLen_le_iff, Int.natAbs_mul, Int.natAbs_natCast, Nat.pow_add]
  exact Nat.mul_lt_mul_of_lt_of_le (natAbs_lt_bitLen l) (Nat.le_refl _) (Nat.two_pow_pos _)

end Casm
