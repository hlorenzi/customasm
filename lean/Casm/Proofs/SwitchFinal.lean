import Casm.Proofs.SwitchSim
import Casm.Proofs.KindInv
import Casm.Proofs.TwoFront
/-!
# Casm.Proofs.SwitchFinal — the static-value optimisation never changes the outcome

The two front ends agree up to marks (`frontRel_proved`), the two iterations fail with the same messages or end
in the same values (`resolveIterativelyN_switch_outcome`, whose hypotheses are facts proved of the front end's
result), and the output stage reads values and encodings, never marks (`outputItems_us`, `symbolListing_us`).
-/
namespace Casm

theorem outputItems_us (H : Nat → Bool) (st : Static) (d : Defs) (nodes : List AstNode) :
    outputItems (st.withStatic false) (d.unfS H) nodes = outputItems st d nodes := by
  unfold outputItems
  congr 1
  funext n
  split
  · simp only [unfS_instr]
  · simp only [unfS_data]
  · rw [show nodeItem (st.withStatic false) (d.unfS H) n 0 = nodeItem st d n 0 from nodeItem_us H st d n 0]

theorem symbolListing_us (H : Nat → Bool) (dc : Decls) (d : Defs) : symbolListing dc (d.unfS H) = symbolListing dc d := by
  have go : ∀ (fuel : Nat) (ch : List (String × Nat)), symbolListing.go dc (d.unfS H) fuel ch = symbolListing.go dc d fuel ch := by
    intro fuel
    induction fuel with
    | zero => intro ch; rfl
    | succ f ih =>
      intro ch
      simp only [symbolListing.go, sym_unfS, ih]
      rfl
  exact go _ _

/-- C08 for the static switch (budget at least two): the assembler started with `--debug-no-optimize-static` fails
    with the same messages, or succeeds with the same bits, spans and symbols, as the optimising one -/
theorem assemble_static_switch (opts : Opts) (fs : SrcFiles) (roots : List (List Char))
    (ho : opts.optStatic = true) (hmax : 2 ≤ opts.maxIter) :
    (assemble opts.staticOff fs roots).map AsmOk.core = (assemble opts fs roots).map AsmOk.core := by
  rw [assemble_eq, assemble_eq, show frontEnd opts.staticOff fs roots = _ from frontRel_proved opts ho fs roots]
  cases hf : frontEnd opts fs roots with
  | error e => rfl
  | ok x =>
    obtain ⟨st, nodes, d0⟩ := x
    have hso : st.opts = opts := (frontEnd_opts opts fs roots st nodes d0 hf).1
    obtain ⟨m, hm⟩ : ∃ m, st.opts.maxIter = m + 2 := ⟨st.opts.maxIter - 2, by rw [hso]; omega⟩
    have key := resolveIterativelyN_switch_outcome (markedByBoth st d0) st nodes d0 (frontEnd_frontOK opts ho fs roots st nodes d0 hf)
      (frontEnd_frontOKS opts fs roots st nodes d0 hf) (by rw [hso]; exact ho) (frontEnd_noClash opts fs roots st nodes d0 hf)
      (frontEnd_uniq opts fs roots st nodes d0 hf) (frontEnd_nodesOK opts fs roots st nodes d0 hf) m
    have key' : (resolveIteratively (st.withStatic false) nodes (d0.unfS (markedByBoth st d0))).map dropK =
        (resolveIteratively st nodes d0).map fun r => dropK (usFin (markedByBoth st d0) r) := by
      unfold resolveIteratively
      rw [show (st.withStatic false).opts.maxIter = st.opts.maxIter from rfl, hm, key]
      cases resolveIterativelyN st nodes (m + 2) d0 <;> rfl
    show ((resolveIteratively (st.withStatic false) nodes (d0.unfS (markedByBoth st d0))).bind
        (emit opts.staticOff (st.withStatic false) nodes)).map AsmOk.core =
      ((resolveIteratively st nodes d0).bind (emit opts st nodes)).map AsmOk.core
    refine bind_rel_congr key' fun a b hab => ?_
    obtain ⟨k', d', rep'⟩ := a
    obtain ⟨k, d, rep⟩ := b
    obtain ⟨hd, hr⟩ : d' = d.unfS (markedByBoth st d0) ∧ rep' = rep := Prod.mk.inj hab
    subst hd hr
    exact emit_core_congr rfl rfl (outputItems_us _ st d nodes) (symbolListing_us _ st.decls d)

end Casm
