import Casm.Proofs.ListLemmas
import Casm.Proofs.Wrote
import Casm.Proofs.PassFold
import Casm.Proofs.IterModel
import Casm.Proofs.StaticMatch
/-!
# Casm.Proofs.Frozen — every first-pass mark keeps a witness of why it is sound

`Good st nodes d0 d` is the invariant of all passes (`d0` is the front end's state):

* `rd`, `kn`, `ic`, `dk` — what the front end fixed stays fixed;
* `j` — a flagged (statically known) symbol with a value is marked resolved, so no step writes it (`FrontOK.j` is
  this of `d0`);
* `hi`, `IW` — a marked instruction keeps the state and context of the step that froze it: there its candidates
  are statically known, all definite and resolve to the one encoding stored, and every flagged symbol that had a
  value then has it still, so that `frozen_instruction_sound` applies;
* `hd`, `DW` — a marked data element holds the bits of the value its expression has in every state
  (`pure_static_eval`).

`K3` says that every flagged constant is marked: the first pass marks each one it visits, a later pass therefore
meets none without a mark.  A step keeps `Good` (`dispatch_good`) because it writes the own entry of its item only
(`Casm.Proofs.Wrote`) and sets a mark through the short-cut of the static-value optimisation only
(`resolveInstruction_marks`, `resolveData_marks`); then a pass (`runVisits_good`, `resolveOnce_good`) and the loop
(`resolveIterativelyN_good`).  The hypothesis `phase` of `dispatch_good` and `ph` of the lemmas about a pass are one
hypothesis — in the first pass the optimisation is on, in a later pass `K3` holds — read off the context of a step
and off the flag of a pass.

`GoodC` adds the witness of a marked constant outside `H` (`CWit`): its value is the value its statically known,
hence state-independent, expression evaluates to (`goodC_init`, `dispatch_goodC`; `FrontOKS` is what they need of
the front end's result).  With it the unoptimised assembler, which works on the state with the marks of
instructions, data elements *and* these constants cleared, recomputes such a constant to the value it has
(`const_recomputes_off` in `Casm.Proofs.SwitchSim`).
-/
namespace Casm

theorem resolveConstant_wrote {st : Static} {d d' : Defs} {ctx : RCtx} {ref : Nat} {e : Expr} {s : Bool} {rep : List String}
    (h : resolveConstant st d ctx ref e = .ok (d', s, rep)) (hr : (d.sym ref).resolved = false) :
    ∃ x, resolverEval st d ctx {} e = .ok x ∧
      d' = d.setSym ref { d.sym ref with value := x.1, resolved := st.opts.optStatic && ctx.first && (d.sym ref).known } := by
  rw [resolveConstant_eq, hr] at h
  obtain ⟨x, o, hx, hs, rfl⟩ := commit_bind_ok h
  cases (converge_ok hs).1
  exact ⟨x, hx, rfl⟩

theorem constant_marked {st : Static} {d d' : Defs} {ctx : RCtx} {ref : Nat} {e : Expr} {s : Bool} {rep : List String}
    (h : resolveConstant st d ctx ref e = .ok (d', s, rep)) (ho : st.opts.optStatic = true) (hf : ctx.first = true)
    (hk : (d.sym ref).known = true) : (d'.sym ref).resolved = true := by
  cases hr : (d.sym ref).resolved with
  | true =>
    rw [resolveConstant_eq, hr] at h
    obtain ⟨o, hV, rfl⟩ := commit_ok h
    cases hV; exact hr
  | false =>
    obtain ⟨x, _, rfl⟩ := resolveConstant_wrote h hr
    rw [sym_setSym_lt d ref _ (sym_known_inrange d ref hk)]
    show (st.opts.optStatic && ctx.first && (d.sym ref).known) = true
    rw [ho, hf, hk]; rfl

theorem resolveInstruction_marks {st : Static} {d d' : Defs} {ctx : RCtx} {ref : Nat} {s : Bool} {rep : List String}
    (h : resolveInstruction st d ctx ref = .ok (d', s, rep))
    (h1 : (d.instrs.getD ref default).resolved = false) (h2 : (d'.instrs.getD ref default).resolved = true) :
    st.opts.optStatic = true ∧ ctx.first = true ∧ (d.instrs.getD ref default).known = true ∧
      allDefinite st d ctx ((d.instrs.getD ref default).cands.map (·.m)) = true ∧
      ∃ encs rep0 e, resolveEncoding st d evalFuel ctx ((d.instrs.getD ref default).cands.map (·.m)) {} = .ok (some encs, rep0) ∧
        encs.length = 1 ∧ encs.head? = some e ∧ (d'.instrs.getD ref default).encoding = e.2 := by
  rw [resolveInstruction_eq, h1] at h
  obtain ⟨x, o, he, hs, rfl⟩ := commit_bind_ok h
  rcases instrStep_ok hs with ⟨l, e, hl, hd, hm, rfl, _, _⟩ | ⟨_, _, _, _, _, rfl, _⟩ | ⟨rfl, _⟩
  · simp only [Bool.and_eq_true] at hm
    obtain ⟨⟨⟨⟨c1, c2⟩, c3⟩, c4⟩, c5⟩ := hm
    exact ⟨c1, c2, c3, c5, l, x.2, e, by rw [he, ← hl], beq_iff_eq.mp c4, hd,
      congrArg InstrDef.encoding (getD_set_of_flag (·.resolved) h1 h2)⟩
  · -- without the short-cut the entry stored carries the mark of the old one, none
    have hx := congrArg InstrDef.resolved (getD_set_of_flag (·.resolved) h1 h2)
    exact absurd (h1.symm.trans (hx.symm.trans h2)) Bool.false_ne_true
  · rw [show (none : Option InstrDef).elim d _ = d from rfl, h1] at h2; cases h2

theorem resolveData_marks {st : Static} {d d' : Defs} {ctx : RCtx} {ref : Nat} {sz : Option Nat} {e : Expr} {s : Bool} {rep : List String}
    (h : resolveData st d ctx ref sz e = .ok (d', s, rep))
    (h1 : (d.datas.getD ref default).resolved = false) (h2 : (d'.datas.getD ref default).resolved = true) :
    st.opts.optStatic = true ∧ ctx.first = true ∧ (d.datas.getD ref default).known = true ∧
      ∃ v c b0, resolverEval st d ctx {} e = .ok (v, c) ∧ dataEnc true v = .ok (some b0) ∧
        dataCheck true sz (some b0) = .ok () ∧ (d'.datas.getD ref default).encoding = dataSlice sz b0 := by
  rw [resolveData_eq, h1] at h
  obtain ⟨x, o, he, hs, rfl⟩ := commit_bind_ok h
  obtain ⟨enc, hen, hck, hs⟩ := dataStep_ok hs
  rcases storeStep_ok hs with ⟨b, hb, hm, rfl, _, _⟩ | ⟨_, _, _, rfl, _⟩ | ⟨_, rfl, _⟩
  · simp only [Bool.and_eq_true] at hm
    obtain ⟨⟨⟨c1, c2⟩, c3⟩, _⟩ := hm
    cases enc with
    | none => cases hb
    | some b0 =>
      cases hb
      rw [c3, Bool.or_true] at hen hck
      exact ⟨c1, c2, c3, x.1, x.2, b0, he, hen, hck, congrArg DataDef.encoding (getD_set_of_flag (·.resolved) h1 h2)⟩
  · have hx := congrArg DataDef.resolved (getD_set_of_flag (·.resolved) h1 h2)
    exact absurd (h1.symm.trans (hx.symm.trans h2)) Bool.false_ne_true
  · rw [show (none : Option DataDef).elim d _ = d from rfl, h1] at h2; cases h2

/-- all decidable; evaluated by the certificate of every correspondence run -/
structure FrontOK (st : Static) (nodes : List AstNode) (d0 : Defs) : Prop where
  instrsFresh : ∀ ref, (d0.instrs.getD ref default).resolved = false
  datasFresh : ∀ ref, (d0.datas.getD ref default).resolved = false
  instrPos : ∀ pre src ref post pre' src' post', nodes = pre ++ .instr src (some ref) :: post →
    nodes = pre' ++ .instr src' (some ref) :: post' → ctxAfter st [] pre' = ctxAfter st [] pre
  instrKnown : ∀ pre src ref post, nodes = pre ++ .instr src (some ref) :: post →
    (d0.instrs.getD ref default).known = true →
    ∀ c ∈ (d0.instrs.getD ref default).cands, matchKnown st.decls d0 (ctxAfter st [] pre) 64 c.m = true
  dataKnown : ∀ pre sz es refs post k, nodes = pre ++ .data sz es refs :: post → k < es.length →
    (d0.datas.getD (refs.getD k 0) default).known = true → staticallyKnown pureP (es.getD k default) = true
  dataPos : ∀ pre sz es refs post k pre' sz' es' refs' post' k', nodes = pre ++ .data sz es refs :: post →
    nodes = pre' ++ .data sz' es' refs' :: post' → k < es.length → k' < es'.length → refs.getD k 0 = refs'.getD k' 0 →
    sz' = sz ∧ es'.getD k' default = es.getD k default
  labelNotKnown : ∀ l nm ne r, AstNode.symbol l nm .label ne (some r) ∈ nodes → (d0.sym r).known = false
  j : ∀ r, (d0.sym r).known = true → (d0.sym r).value ≠ .unknown → (d0.sym r).resolved = true

def IW (st : Static) (nodes : List AstNode) (d0 d : Defs) (ref : Nat) : Prop :=
  ∃ (s1 : Defs) (ctx1 : RCtx) (encs : List (Nat × BI)) (rep : List String) (e : Nat × BI),
    s1.ruledefs = d0.ruledefs ∧
    (∀ r, (d0.sym r).known = true → (s1.sym r).value ≠ .unknown → (d.sym r).value = (s1.sym r).value) ∧
    (∀ pre src post, nodes = pre ++ .instr src (some ref) :: post → ctx1.symCtx = ctxAfter st [] pre) ∧
    (∀ c ∈ (d0.instrs.getD ref default).cands, matchKnown st.decls d0 ctx1.symCtx 64 c.m = true) ∧
    allDefinite st s1 ctx1 ((d0.instrs.getD ref default).cands.map (·.m)) = true ∧
    resolveEncoding st s1 evalFuel ctx1 ((d0.instrs.getD ref default).cands.map (·.m)) {} = .ok (some encs, rep) ∧
    encs.length = 1 ∧ encs.head? = some e ∧ (d.instrs.getD ref default).encoding = e.2

def DW (st : Static) (nodes : List AstNode) (d : Defs) (ref : Nat) : Prop :=
  ∀ pre sz es refs post k, nodes = pre ++ .data sz es refs :: post → k < es.length → refs.getD k 0 = ref →
    ∃ v c b0, (∀ s ctx, resolverEval st s ctx {} (es.getD k default) = .ok (v, c)) ∧ dataEnc true v = .ok (some b0) ∧
      dataCheck true sz (some b0) = .ok () ∧ (d.datas.getD ref default).encoding = dataSlice sz b0

structure Good (st : Static) (nodes : List AstNode) (d0 d : Defs) : Prop where
  rd : d.ruledefs = d0.ruledefs
  kn : ∀ r, (d.sym r).known = (d0.sym r).known
  j : ∀ r, (d0.sym r).known = true → (d.sym r).value ≠ .unknown → (d.sym r).resolved = true
  ic : ∀ ref, (d.instrs.getD ref default).cands = (d0.instrs.getD ref default).cands ∧
    (d.instrs.getD ref default).known = (d0.instrs.getD ref default).known
  dk : ∀ ref, (d.datas.getD ref default).known = (d0.datas.getD ref default).known
  hi : ∀ ref, (d.instrs.getD ref default).resolved = true → IW st nodes d0 d ref
  hd : ∀ ref, (d.datas.getD ref default).resolved = true → DW st nodes d ref

theorem good_init (st : Static) (nodes : List AstNode) (d0 : Defs) (f : FrontOK st nodes d0) : Good st nodes d0 d0 :=
  ⟨rfl, fun _ => rfl, f.j, fun _ => ⟨rfl, rfl⟩, fun _ => rfl,
   fun ref h => (by rw [f.instrsFresh ref] at h; cases h), fun ref h => (by rw [f.datasFresh ref] at h; cases h)⟩

/-- true after the first pass -/
def K3 (nodes : List AstNode) (d0 d : Defs) : Prop :=
  ∀ l nm e ne r, AstNode.symbol l nm (.constant e) ne (some r) ∈ nodes → (d0.sym r).known = true → (d.sym r).resolved = true

theorem FrontOK.sym_kept {st : Static} {nodes : List AstNode} {d0 d d' : Defs} (f : FrontOK st nodes d0) {n : AstNode} {k : Nat}
    (w : Wrote d n k d') (hmem : n ∈ nodes) {r : Nat} (hk : (d0.sym r).known = true) (hr : (d.sym r).resolved = true) :
    d'.sym r = d.sym r :=
  w.sym_kept hr fun l nm ne hn => by rw [f.labelNotKnown l nm ne r (hn ▸ hmem)] at hk; cases hk

theorem dispatch_good (st : Static) (nodes : List AstNode) (d0 d d' : Defs) (f : FrontOK st nodes d0)
    (pre : List AstNode) (n : AstNode) (post : List AstNode) (hsplit : nodes = pre ++ n :: post)
    (ctx : RCtx) (hctx : ctx.symCtx = ctxAfter st [] (pre ++ [n])) (k : Nat) (hkr : k < nodeElems n) (s : Bool) (rep : List String)
    (g : Good st nodes d0 d)
    (phase : (ctx.first = true ∧ st.opts.optStatic = true) ∨ (ctx.first = false ∧ K3 nodes d0 d))
    (h : dispatch st d ctx n k = .ok (d', s, rep)) : Good st nodes d0 d' := by
  have w := dispatch_wrote st d d' ctx n k s rep h
  have fr := dispatch_frame st d d' ctx n k s rep h
  have hmem : n ∈ nodes := by rw [hsplit]; simp
  -- a statically known symbol with a value is marked (`g.j`), hence not written
  have keep : ∀ r, (d0.sym r).known = true → (d.sym r).value ≠ .unknown → d'.sym r = d.sym r :=
    fun r hk hv => f.sym_kept w hmem hk (g.j r hk hv)
  refine ⟨fr.rd.trans g.rd, fun r => (w.sym_known r).trans (g.kn r), fun r hk hv => ?_,
    fun ref => ⟨(fr.ic ref).1.trans (g.ic ref).1, (fr.ic ref).2.trans (g.ic ref).2⟩, fun ref => (fr.dk ref).trans (g.dk ref),
    fun ref hres' => ?_, fun ref hres' => ?_⟩
  · rcases w.at_sym r with he | ⟨_, _, _, ⟨⟨l, nm, ne, hn⟩, _⟩ | ⟨⟨l, nm, e, ne, hn⟩, hr0⟩⟩
    · rw [he] at hv ⊢; exact g.j r hk hv
    · rw [f.labelNotKnown l nm ne r (hn ▸ hmem)] at hk; cases hk
    · -- an unmarked constant: the first pass marks it; after the first pass there is none
      subst hn
      rcases phase with ⟨hf, ho⟩ | ⟨_, k3⟩
      · exact constant_marked h ho hf ((g.kn r).trans hk)
      · rw [k3 l nm e ne r hmem hk] at hr0; cases hr0
  · rcases w.at_instr ref with he | ⟨⟨src, rfl⟩, hr0, _⟩
    · -- not written: the witness it had, whose symbols this step does not write
      unfold IW
      rw [he]
      obtain ⟨s1, ctx1, encs, rp, e, w1, w2, w3⟩ := g.hi ref (he ▸ hres')
      exact ⟨s1, ctx1, encs, rp, e, w1,
        fun r hk hv => (congrArg SymDef.value (keep r hk (w2 r hk hv ▸ hv))).trans (w2 r hk hv), w3⟩
    · -- marked by this step: the state and context of the step are the witness
      obtain ⟨_, _, hkn, had, encs, rp, e, he, hlen, hhd, henc⟩ := resolveInstruction_marks h hr0 hres'
      have hsc : ctx.symCtx = ctxAfter st [] pre := hctx.trans (ctxAfter_snoc st [] pre _)
      rw [(g.ic ref).1] at had he
      rw [(g.ic ref).2] at hkn
      exact ⟨d, ctx, encs, rp, e, g.rd, fun r hk hv => by rw [keep r hk hv],
        fun pre' src' post' hs' => by rw [hsc]; exact f.instrPos pre' src' ref post' pre src post hs' hsplit,
        by rw [hsc]; exact f.instrKnown pre src ref post hsplit hkn, had, he, hlen, hhd, henc⟩
  · rcases w.at_data ref with he | ⟨⟨sz, es, refs, rfl, rfl⟩, hr0, _⟩
    · unfold DW
      rw [he]
      exact g.hd ref (he ▸ hres')
    · -- marked by this step: its expression is statically known, so it has this value in every state
      obtain ⟨_, _, hknown, v, c, b0, hev, hen, hck, henc⟩ := resolveData_marks h hr0 hres'
      have hkl : k < es.length := by simpa [nodeElems] using hkr
      intro pre' sz' es' refs' post' k' hs' hk' hr'
      obtain ⟨e1, e2⟩ := f.dataPos pre sz es refs post k pre' sz' es' refs' post' k' hsplit hs' hkl hk' hr'.symm
      rw [e1, e2]
      have hpure : staticallyKnown pureP (es.getD k default) = true :=
        f.dataKnown pre sz es refs post k hsplit hkl (by rw [← g.dk]; exact hknown)
      exact ⟨v, c, b0, fun s2 ctx2 => by rw [pure_static_eval st d s2 ctx ctx2 _ hpure]; exact hev, hen, hck, henc⟩

/-- in the first pass the known constants visited so far are marked, in later passes all of them are -/
theorem runVisits_good (st : Static) (nodes : List AstNode) (d0 : Defs) (f : FrontOK st nodes d0) (first last : Bool)
    {done rest : List Visit} (hs : visits nodes = done ++ rest) {d : Defs} {a : PassSt}
    (hdone : runVisits st first last done (.init d) = .ok a) (g : Good st nodes d0 d)
    (ph : if first = true then st.opts.optStatic = true else K3 nodes d0 d) :
    Good st nodes d0 a.defs ∧ K3 (if first = true then done.map (·.1) else nodes) d0 a.defs := by
  refine runVisits_inv (I := fun done a => Good st nodes d0 a.defs ∧ K3 (if first = true then done.map (·.1) else nodes) d0 a.defs)
    hdone ⟨g, ?_⟩ fun done' n k _ a a' hs' hd ih hq => ?_
  · cases first with
    | true => exact fun _ _ _ _ _ hm => by cases hm
    | false => exact ph
  · obtain ⟨pre, post, e1, e2, hsc⟩ :=
      visit_ctx (show visits nodes = done' ++ (n, k) :: _ by rw [hs, hs', List.append_assoc]; rfl) hd
    obtain ⟨it, s, r, _, hdp, _⟩ := passNode_inv st first last a a' n k hq
    have w := dispatch_wrote st a.defs a'.defs _ n k s r hdp
    cases first with
    | false =>
      exact ⟨dispatch_good st nodes d0 a.defs a'.defs f pre n post e1 _ hsc k e2 s r ih.1 (Or.inr ⟨rfl, ih.2⟩) hdp,
        fun lv nm e ne r' hm hk => w.sym_resolved r' (ih.2 lv nm e ne r' hm hk)⟩
    | true =>
      refine ⟨dispatch_good st nodes d0 a.defs a'.defs f pre n post e1 _ hsc k e2 s r ih.1 (Or.inl ⟨rfl, ph⟩) hdp,
        fun lv nm e ne r' hm hk => ?_⟩
      rw [if_pos rfl, List.map_append] at hm
      rcases List.mem_append.mp hm with hm | hm
      · exact w.sym_resolved r' (ih.2 lv nm e ne r' hm hk)
      · -- the constant just visited: the optimisation marks it
        cases List.mem_singleton.mp hm
        exact constant_marked hdp ph rfl ((ih.1.kn r').trans hk)

theorem resolveOnce_good (st : Static) (nodes : List AstNode) (d0 : Defs) (f : FrontOK st nodes d0) (first last : Bool)
    (d d' : Defs) (s : Bool) (rep : List String) (g : Good st nodes d0 d)
    (ph : if first = true then st.opts.optStatic = true else K3 nodes d0 d)
    (h : resolveOnce st nodes first last d = .ok (d', s, rep)) :
    Good st nodes d0 d' ∧ K3 nodes d0 d' := by
  obtain ⟨ps, hp, rfl, _, _⟩ := resolveOnce_ok.mp h
  obtain ⟨g', ph'⟩ := runVisits_good st nodes d0 f first last (List.append_nil _).symm hp g ph
  refine ⟨g', ?_⟩
  cases first with
  | true =>
    exact fun l nm e ne r hm hk => ph' l nm e ne r (mem_visits_fst hm (Nat.le_refl 1)) hk
  | false => exact ph'

theorem resolveIterativelyN_good (st : Static) (nodes : List AstNode) (d0 : Defs) (f : FrontOK st nodes d0) (max : Nat)
    (ho : st.opts.optStatic = true) (hm : 1 ≤ max) (k : Nat) (d : Defs) (rep : List String)
    (h : resolveIterativelyN st nodes max d0 = .ok (k, d, rep)) : Good st nodes d0 d := by
  have ph : ∀ i d, (1 ≤ i → K3 nodes d0 d) → if (i + 1 == 1) = true then st.opts.optStatic = true else K3 nodes d0 d := by
    intro i d hk
    cases i with
    | zero => exact ho
    | succ i => exact hk (Nat.succ_pos i)
  obtain ⟨i, d1, rp, fl, r, ⟨g, hk⟩, hp, _, hf1, hf0⟩ := resolveIterativelyN_ok_inv
    (I := fun i d _ => Good st nodes d0 d ∧ (1 ≤ i → K3 nodes d0 d)) ⟨good_init st nodes d0 f, fun h0 => absurd h0 (by omega)⟩
    (fun i d _ d1 b r _ hI hp =>
      have := resolveOnce_good st nodes d0 f _ _ d d1 b r hI.1 (ph i d hI.2) hp
      ⟨this.1, fun _ => this.2⟩) h
  refine (resolveOnce_good st nodes d0 f fl true d1 d true r g ?_ hp).1
  cases fl with
  | true => exact ho
  | false => exact hk ((hf0 rfl).resolve_right (by omega))

/-- a flagged constant's expression is statically known; a constant marked for the optimisation only
    (outside `H`) already holds its pure value -/
structure FrontOKS (st : Static) (nodes : List AstNode) (d0 : Defs) (H : Nat → Bool) : Prop where
  constKnown : ∀ l nm e ne r, AstNode.symbol l nm (.constant e) ne (some r) ∈ nodes → (d0.sym r).known = true →
    staticallyKnown pureP e = true
  constUniq : ∀ l nm e ne l' nm' e' ne' r, AstNode.symbol l nm (.constant e) ne (some r) ∈ nodes →
    AstNode.symbol l' nm' (.constant e') ne' (some r) ∈ nodes → e' = e
  hmarked : ∀ r, H r = true → (d0.sym r).resolved = true
  cw0 : ∀ l nm e ne r, AstNode.symbol l nm (.constant e) ne (some r) ∈ nodes → (d0.sym r).resolved = true → H r = false →
    (d0.sym r).known = true ∧ ∃ v c, (∀ s ctx, resolverEval st s ctx {} e = .ok (v, c)) ∧ (d0.sym r).value = v

def CWit (st : Static) (nodes : List AstNode) (d0 d : Defs) (r : Nat) : Prop :=
  ∀ l nm e ne, AstNode.symbol l nm (.constant e) ne (some r) ∈ nodes →
    (d0.sym r).known = true ∧ ∃ v c, (∀ s ctx, resolverEval st s ctx {} e = .ok (v, c)) ∧ (d.sym r).value = v

def GoodC (st : Static) (nodes : List AstNode) (d0 d : Defs) (H : Nat → Bool) : Prop :=
  (∀ r, H r = true → (d.sym r).resolved = true) ∧
  (∀ r, (d.sym r).resolved = true → H r = false → CWit st nodes d0 d r)

theorem goodC_init (st : Static) (nodes : List AstNode) (d0 : Defs) (H : Nat → Bool) (f : FrontOKS st nodes d0 H) :
    GoodC st nodes d0 d0 H :=
  ⟨f.hmarked, fun r hr hh l nm e ne hm => f.cw0 l nm e ne r hm hr hh⟩

theorem dispatch_goodC (st : Static) (nodes : List AstNode) (d0 d d' : Defs) (H : Nat → Bool)
    (f : FrontOK st nodes d0) (fs : FrontOKS st nodes d0 H) (n : AstNode) (hmem : n ∈ nodes)
    (ctx : RCtx) (k : Nat) (s : Bool) (rep : List String) (g : Good st nodes d0 d) (gc : GoodC st nodes d0 d H)
    (h : dispatch st d ctx n k = .ok (d', s, rep)) : GoodC st nodes d0 d' H := by
  have w := dispatch_wrote st d d' ctx n k s rep h
  refine ⟨fun r hr => w.sym_resolved r (gc.1 r hr), fun r hres' hh l nm e ne hm => ?_⟩
  cases hres : (d.sym r).resolved with
  | true =>
    -- already marked: the symbol is not written
    obtain ⟨hk, v, c, hp, hv⟩ := gc.2 r hres hh l nm e ne hm
    exact ⟨hk, v, c, hp, by rw [f.sym_kept w hmem hk hres]; exact hv⟩
  | false =>
    -- marked by this step: it is the step of a constant node of `r`, and the short-cut was taken
    rcases w.at_sym r with he | ⟨_, _, he, ⟨_, rfl⟩ | ⟨⟨l', nm', e', ne', rfl⟩, _⟩⟩
    · rw [he, hres] at hres'; cases hres'
    · rw [he] at hres'; exact absurd (hres.symm.trans hres') Bool.noConfusion
    · obtain ⟨x, hev, rfl⟩ := resolveConstant_wrote h hres
      rcases sym_setSym d r r { d.sym r with value := x.1, resolved := st.opts.optStatic && ctx.first && (d.sym r).known }
        with h1 | ⟨_, h1⟩
      · rw [h1, hres] at hres'; cases hres'
      · rw [h1] at hres' ⊢
        simp only [Bool.and_eq_true] at hres'
        have hk0 : (d0.sym r).known = true := by rw [← g.kn r]; exact hres'.2
        cases fs.constUniq l nm e ne l' nm' e' ne' r hm hmem
        have hpure : staticallyKnown pureP e = true := fs.constKnown l nm e ne r hm hk0
        exact ⟨hk0, x.1, x.2, fun s2 ctx2 => by rw [pure_static_eval st d s2 ctx ctx2 e hpure]; exact hev, rfl⟩

end Casm
