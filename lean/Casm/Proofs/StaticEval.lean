import Casm.Model.Inspect
import Casm.Proofs.EvalMono
/-!
# Casm.Proofs.StaticEval — what `is_value_statically_known` promises

If the analysis answers "statically known" for an expression, then its evaluation in two
environments that agree on everything the analysis calls known (known variables, the asm-builtin
functions) is the same — value, error text and resulting context alike — when started from the same
evaluation context.
-/
namespace Casm

-- what `eval_static` assumes; the induction `eval_known` runs on the weaker `AgreeOn`, which this gives by `Agree.on` and
-- `AgreeLe` by `AgreeLe.known_on`
structure Agree (p : SKProvider) (env1 env2 : EvalEnv) : Prop where
  var : ∀ l path, p.queryVariable l path = true → env2.var l path = env1.var l path
  fn : ∀ n vs c, env2.fn (.asmBuiltin n) vs c = env1.fn (.asmBuiltin n) vs c
  callee : ∀ n, p.queryFunction n = true → isBuiltinName n = false →
    ∃ n', env1.var 0 [n] = .ok (.asmBuiltin n') ∧ env2.var 0 [n] = .ok (.asmBuiltin n')

-- Needed at an assignment only (`CtxInv.setLocal`): the analysis accepts `n = e` if it calls `n` known, and keeps no record
-- of it; were `n` one of the provider's functions, the local it binds would hide it in the calls that follow, which the analysis
-- judged as calls of the function.
def ProviderOK (p : SKProvider) : Prop :=
  ∀ n, p.queryFunction n = true → p.queryVariable 0 [n] = false

-- First clause: a function of the provider that no local of the provider hides is not hidden in the context either, so
-- the callee of an accepted call is looked up in the environment (`eval_callee`).  Second clause: a local the provider calls
-- known is bound, so a variable accepted on its strength is read from the context, and the environment is asked only where
-- `queryVariable` said yes (`known_var_query`).
def CtxInv (p : SKProvider) (c : ECtx) : Prop :=
  (∀ n, p.queryFunction n = true → p.local? n = none → c.locals.get n = none) ∧
  (∀ n l, p.local? n = some l → l.valueKnown = true → (c.locals.get n).isSome = true)

theorem CtxInv.nil {p : SKProvider} {c : ECtx} (hp : p.locals = []) (hc : c.locals = []) : CtxInv p c :=
  ⟨fun _ _ _ => by rw [hc]; rfl, fun _ _ hl => by rw [SKProvider.local?, hp] at hl; cases hl⟩

theorem CtxInv.set {p p' : SKProvider} {c : ECtx} (hi : CtxInv p c) (nm : String) (v : Value)
    (hqf : p'.queryFunction = p.queryFunction) (hloc : ∀ n, nm ≠ n → p'.local? n = p.local? n)
    (hnm : p'.queryFunction nm = true → p'.local? nm ≠ none) : CtxInv p' (c.setLocal nm v) := by
  refine ⟨fun n hn hl => ?_, fun n l hl hv => ?_⟩
  · have hne : nm ≠ n := fun e => hnm (e ▸ hn) (e ▸ hl)
    rw [hloc n hne] at hl; rw [hqf] at hn
    exact (Locals.get_set_ne _ _ _ _ hne).trans (hi.1 n hn hl)
  · by_cases hne : nm = n
    · exact hne ▸ congrArg Option.isSome (Locals.get_set_self _ _ _)
    · rw [hloc n hne] at hl
      exact (congrArg Option.isSome (Locals.get_set_ne _ _ _ _ hne)).trans (hi.2 n l hl hv)

theorem CtxInv.setLocal {p : SKProvider} {c : ECtx} (hp : ProviderOK p) (hi : CtxInv p c) (name : String) (v : Value)
    (hk : staticallyKnown p (.var 0 [name]) = true) : CtxInv p (c.setLocal name v) :=
  hi.set name v rfl (fun _ _ => rfl) fun hn hl => by
    rw [staticallyKnown, hl, hp _ hn] at hk; cases hk

theorem builtinKnown_isBuiltin (n : String) (h : builtinStaticallyKnownValue n = true) : isBuiltinName n = true := by
  have key : ∀ q ∈ Gen.builtinStaticallyKnown, q.2 = true → isBuiltinName q.1 = true := by decide
  unfold builtinStaticallyKnownValue at h
  cases hq : Gen.builtinStaticallyKnown.find? (·.1 == n) with
  | none => rw [hq] at h; cases h
  | some q =>
    rw [hq] at h
    have hn : q.1 = n := eq_of_beq (List.find?_some (p := fun x : String × Bool => x.1 == n) hq)
    exact hn ▸ key q (List.mem_of_find?_eq_some hq) h

theorem call_known_inv (p : SKProvider) (f : Expr) (args : List Expr) (h : staticallyKnown p (.call f args) = true) :
    ∃ n, f = .var 0 [n] ∧ staticallyKnownAll p args = true ∧
      (builtinStaticallyKnownValue n || ((p.local? n).isNone && p.queryFunction n)) = true := by
  unfold staticallyKnown at h
  split at h
  next names =>
    cases hka : staticallyKnownAll p args with
    | false => rw [hka] at h; cases h
    | true =>
      rw [hka, Bool.not_true, if_neg Bool.false_ne_true] at h
      split at h
      next n => exact ⟨n, rfl, rfl, h⟩
      next => cases h
  next => cases h

/-! ## the two places where the invariant on the context is used -/

theorem known_fn_query {p : SKProvider} {n : String}
    (hkn : (builtinStaticallyKnownValue n || ((p.local? n).isNone && p.queryFunction n)) = true) (hb : isBuiltinName n = false) :
    p.local? n = none ∧ p.queryFunction n = true := by
  cases h1 : builtinStaticallyKnownValue n with
  | true => rw [builtinKnown_isBuiltin n h1] at hb; cases hb
  | false =>
    rw [h1, Bool.false_or, Bool.and_eq_true, Option.isNone_iff_eq_none] at hkn
    exact hkn

theorem eval_callee {p : SKProvider} (env : EvalEnv) {c : ECtx} {n : String}
    (hkn : (builtinStaticallyKnownValue n || ((p.local? n).isNone && p.queryFunction n)) = true) (hinv : CtxInv p c) :
    eval env c (.var 0 [n]) = if isBuiltinName n then .ok (.builtin n, c) else retV c (env.var 0 [n]) := by
  rw [eval_var, ECtx.lookup]
  cases hb : isBuiltinName n with
  | true => rfl
  | false =>
    have hq := known_fn_query hkn hb
    simp only [Bool.false_eq_true, if_false, hinv.1 n hq.2 hq.1]

theorem known_var_query {p : SKProvider} {c : ECtx} {l : Nat} {path : List String}
    (hk : staticallyKnown p (.var l path) = true) (hinv : CtxInv p c) (hl : c.lookup l path = none) :
    p.queryVariable l path = true := by
  unfold staticallyKnown at hk
  split at hk
  next n =>
    cases hloc : p.local? n with
    | none => rw [hloc] at hk; exact hk
    | some loc =>
      -- the context holds a local that the provider knows, so the lookup finds it
      rw [hloc] at hk
      have hs := hinv.2 n loc hloc hk
      rcases ite_eq_cases (show (if isBuiltinName n then _ else c.locals.get n) = none from hl) with ⟨_, e⟩ | ⟨_, e⟩
      · cases e
      · rw [e] at hs; cases hs
  next => exact hk

/-! ## results that are equal, and keep the invariant -/

def ResEq {α} (I : ECtx → Prop) (r1 r2 : Except String (α × ECtx)) : Prop :=
  r2 = r1 ∧ ∀ a c, r1 = .ok (a, c) → I c

theorem ResEq.error {α} {I : ECtx → Prop} (m : String) : ResEq (α := α) I (.error m) (.error m) :=
  ⟨rfl, fun _ _ h => by cases h⟩

theorem ResEq.ok {α} {I : ECtx → Prop} {c : ECtx} (a : α) (h : I c) : ResEq I (.ok (a, c)) (.ok (a, c)) :=
  ⟨rfl, fun _ _ e => by injection e with e; injection e with _ e; exact e ▸ h⟩

theorem ResEq.retV {I : ECtx → Prop} {c : ECtx} {r1 r2 : Except String Value} (h : I c) (e : r2 = r1) :
    ResEq I (retV c r1) (retV c r2) :=
  ⟨e ▸ rfl, fun _ _ h1 => (retV_ok h1).2 ▸ h⟩

theorem ResEq.bind {α β} {I : ECtx → Prop} {r1 r2 : Except String (α × ECtx)} {f g : α × ECtx → Except String (β × ECtx)}
    (hr : ResEq I r1 r2) (hf : ∀ x, r1 = .ok x → I x.2 → ResEq I (f x) (g x)) : ResEq I (r1.bind f) (r2.bind g) := by
  rw [hr.1]
  cases r1 with
  | error m => exact .error m
  | ok x => exact hf x rfl (hr.2 x.1 x.2 rfl)

theorem ResEq.thenV {α} {I : ECtx → Prop} {stop : Value → α} {r1 r2 : Except String (Value × ECtx)}
    {k1 k2 : Value → ECtx → Except String (α × ECtx)} (hr : ResEq I r1 r2)
    (hk : ∀ v c, r1 = .ok (v, c) → v.shouldPropagate = false → I c → ResEq I (k1 v c) (k2 v c)) :
    ResEq I (thenV stop r1 k1) (thenV stop r2 k2) :=
  hr.bind fun x e hc => by
    by_cases hv : x.1.shouldPropagate = true
    · rw [if_pos hv, if_pos hv]; exact .ok _ hc
    · rw [if_neg hv, if_neg hv]; exact hk x.1 x.2 e (Bool.eq_false_iff.2 hv) hc

theorem ResEq.thenArgs {I : ECtx → Prop} {r1 r2 : Except String (Sum Value (List Value) × ECtx)}
    {k1 k2 : List Value → ECtx → Except String (Value × ECtx)} (hr : ResEq I r1 r2)
    (hk : ∀ vs c, I c → ResEq I (k1 vs c) (k2 vs c)) : ResEq I (thenArgs r1 k1) (thenArgs r2 k2) :=
  hr.bind fun x _ hc => by
    obtain ⟨s, c⟩ := x
    cases s with
    | inl u => exact .ok _ hc
    | inr vs => exact hk vs c hc

/-- `Agree`, asking of the callee only what the proof needs: the two environments resolve it alike, and not to a
    function of the user (the call of which would ask `fn` for what `Agree.fn` does not cover) -/
structure AgreeOn (p : SKProvider) (env1 env2 : EvalEnv) : Prop where
  var : ∀ l path, p.queryVariable l path = true → env2.var l path = env1.var l path
  fn : ∀ n vs c, env2.fn (.asmBuiltin n) vs c = env1.fn (.asmBuiltin n) vs c
  callee : ∀ n, p.queryFunction n = true → isBuiltinName n = false →
    env2.var 0 [n] = env1.var 0 [n] ∧ ∀ i, env1.var 0 [n] ≠ .ok (.fn i)

theorem Agree.on {p : SKProvider} {env1 env2 : EvalEnv} (ag : Agree p env1 env2) : AgreeOn p env1 env2 :=
  ⟨ag.var, ag.fn, fun n hq hb =>
    have ⟨_, e1, e2⟩ := ag.callee n hq hb
    ⟨e2.trans e1.symm, fun i h => by rw [e1] at h; cases h⟩⟩

section
variable {p : SKProvider} {env1 env2 : EvalEnv}

mutual
theorem eval_known (hp : ProviderOK p) (ag : AgreeOn p env1 env2) : ∀ (e : Expr) (c : ECtx),
    staticallyKnown p e = true → CtxInv p c → ResEq (CtxInv p) (eval env1 c e) (eval env2 c e)
  | .lit v, c, _, hinv => by rw [eval, eval]; exact .ok v hinv
  | .var l path, c, hk, hinv => by
    rw [eval_var, eval_var]
    cases hl : c.lookup l path with
    | some v => exact .ok v hinv
    | none => exact .retV hinv (ag.var l path (known_var_query hk hinv hl))
  | .un op e, c, hk, _ => by rw [staticallyKnown] at hk; cases hk
  | .bin op l r, c, hk, hinv => by
    rw [staticallyKnown, Bool.and_eq_true] at hk
    by_cases ha : op = .Assign
    · subst ha
      by_cases hl : ∃ name, l = .var 0 [name]
      · obtain ⟨name, rfl⟩ := hl
        rw [eval_assign, eval_assign]
        exact .thenV (eval_known hp ag r c hk.2 hinv) fun v c _ _ hc => .ok _ (CtxInv.setLocal hp hc name v hk.1)
      · obtain ⟨m, hm⟩ := eval_assign_bad l r fun name e => hl ⟨name, e⟩
        rw [hm, hm]; exact .error m
    · rw [eval_bin ha, eval_bin ha]
      refine .thenV (eval_known hp ag l c hk.1 hinv) fun lv c _ _ hc => ?_
      cases shortCircuit op lv with
      | some res => exact .retV hc rfl
      | none => exact .thenV (eval_known hp ag r c hk.2 hc) fun _ _ _ _ hc => .retV hc rfl
  | .tern a t f, c, hk, hinv => by
    rw [staticallyKnown, Bool.and_eq_true, Bool.and_eq_true] at hk
    rw [eval_tern, eval_tern]
    refine .thenV (eval_known hp ag a c hk.1.1 hinv) fun v c _ _ hc => ?_
    split
    · exact eval_known hp ag t c hk.1.2 hc
    · exact eval_known hp ag f c hk.2 hc
    · exact .error _
  | .slice hi lo inner, c, hk, hinv => by
    rw [staticallyKnown, Bool.and_eq_true, Bool.and_eq_true] at hk
    rw [eval_slice, eval_slice]
    refine .thenV (eval_known hp ag inner c hk.2 hinv) fun iv c _ _ hc => ?_
    cases iv.getBigint with
    | none => exact .error _
    | some x =>
      exact .thenV (eval_known hp ag hi c hk.1.1 hc) fun _ c _ _ hc =>
        .thenV (eval_known hp ag lo c hk.1.2 hc) fun _ _ _ _ hc => .retV hc rfl
  | .sliceShort size inner, c, hk, hinv => by
    rw [staticallyKnown, Bool.and_eq_true] at hk
    rw [eval_sliceShort, eval_sliceShort]
    refine .thenV (eval_known hp ag inner c hk.2 hinv) fun iv c _ _ hc => ?_
    cases iv.getBigint with
    | none => exact .error _
    | some x => exact .thenV (eval_known hp ag size c hk.1 hc) fun _ _ _ _ hc => .retV hc rfl
  | .block es, c, hk, hinv => by
    rw [staticallyKnown] at hk
    rw [eval_block, eval_block]; exact evalBlock_known hp ag es c .void hk hinv
  | .call f args, c, hk, hinv => by
    obtain ⟨n, rfl, hka, hkn⟩ := call_known_inv p f args hk
    rw [eval_call, eval_call, eval_callee env1 hkn hinv, eval_callee env2 hkn hinv]
    have hargs := fun c (hc : CtxInv p c) => evalArgs_known hp ag args c [] hka hc
    cases hb : isBuiltinName n with
    | true =>
      exact .thenV (.ok _ hinv) fun fv c hfv _ hc => .thenArgs (hargs c hc) fun _ _ hc => .retV hc (by cases hfv; rfl)
    | false =>
      have ⟨e, hfn⟩ := ag.callee n (known_fn_query hkn hb).2 hb
      refine .thenV (.retV hinv e) fun fv c hfv _ hc => .thenArgs (hargs c hc) fun vs c hc => .retV hc ?_
      cases fv with
      | asmBuiltin n' => exact ag.fn n' vs c
      | fn i => exact absurd (retV_ok hfv).1 (hfn i)
      | _ => rfl
  | .asm text, c, hk, _ => by rw [staticallyKnown] at hk; cases hk

theorem evalBlock_known (hp : ProviderOK p) (ag : AgreeOn p env1 env2) : ∀ (es : List Expr) (c : ECtx) (last : Value),
    staticallyKnownAll p es = true → CtxInv p c → ResEq (CtxInv p) (evalBlock env1 c last es) (evalBlock env2 c last es)
  | [], c, last, _, hinv => by rw [evalBlock, evalBlock]; exact .ok last hinv
  | e :: es, c, last, hk, hinv => by
    rw [staticallyKnownAll, Bool.and_eq_true] at hk
    rw [evalBlock_cons, evalBlock_cons]
    exact .thenV (eval_known hp ag e c hk.1 hinv) fun v c _ _ hc => evalBlock_known hp ag es c v hk.2 hc

theorem evalArgs_known (hp : ProviderOK p) (ag : AgreeOn p env1 env2) : ∀ (es : List Expr) (c : ECtx) (acc : List Value),
    staticallyKnownAll p es = true → CtxInv p c → ResEq (CtxInv p) (evalArgs env1 c acc es) (evalArgs env2 c acc es)
  | [], c, acc, _, hinv => by rw [evalArgs, evalArgs]; exact .ok _ hinv
  | e :: es, c, acc, hk, hinv => by
    rw [staticallyKnownAll, Bool.and_eq_true] at hk
    rw [evalArgs_cons, evalArgs_cons]
    exact .thenV (eval_known hp ag e c hk.1 hinv) fun v c _ _ hc => evalArgs_known hp ag es c (v :: acc) hk.2 hc
end

end

theorem eval_static (p : SKProvider) (hp : ProviderOK p) (env1 env2 : EvalEnv) (ag : Agree p env1 env2) :
    ∀ c e, staticallyKnown p e = true → CtxInv p c →
      eval env2 c e = eval env1 c e ∧ ∀ v c', eval env1 c e = .ok (v, c') → CtxInv p c' :=
  fun c e => eval_known hp ag.on e c

/-! ## the one-directional form: a definite result survives the refinement of unknown answers -/

structure AgreeLe (p : SKProvider) (env1 env2 : EvalEnv) : Prop where
  var : ∀ l path, p.queryVariable l path = true → ∀ v, env1.var l path = .ok v → v ≠ .unknown → env2.var l path = .ok v
  fn : ∀ n vs c v, env1.fn (.asmBuiltin n) vs c = .ok v → v ≠ .unknown → env2.fn (.asmBuiltin n) vs c = .ok v
  callee : ∀ n, p.queryFunction n = true → isBuiltinName n = false →
    (∃ n', env1.var 0 [n] = .ok (.asmBuiltin n') ∧ env2.var 0 [n] = .ok (.asmBuiltin n')) ∨ env1.var 0 [n] = .ok .unknown

theorem ne_unknown_of_not_propagate {v : Value} (h : ¬ v.shouldPropagate = true) : v ≠ .unknown := by
  intro e; subst e; exact h rfl

def Value.isUnk : Value → Bool
  | .unknown => true
  | _ => false

theorem isUnk_of_not_propagate (v : Value) (h : v.shouldPropagate = false) : v.isUnk = false := by
  cases v with
  | unknown => cases h
  | _ => rfl

theorem isUnk_failed (m : String) : (Value.failed m).isUnk = false := rfl
theorem isUnk_void : Value.void.isUnk = false := rfl
theorem isUnk_int (b : BI) : (Value.int b).isUnk = false := rfl
theorem isUnk_str (s : List Char) (e : Enc) : (Value.str s e).isUnk = false := rfl
theorem isUnk_bool (b : Bool) : (Value.bool b).isUnk = false := rfl
theorem isUnk_builtin (n : String) : (Value.builtin n).isUnk = false := rfl
theorem isUnk_asmBuiltin (n : String) : (Value.asmBuiltin n).isUnk = false := rfl
theorem isUnk_fn (n : Nat) : (Value.fn n).isUnk = false := rfl
theorem isUnk_unknown : Value.unknown.isUnk = true := rfl

theorem callee_eval' (p : SKProvider) (env1 env2 : EvalEnv)
    (hc : ∀ n, p.queryFunction n = true → isBuiltinName n = false →
      ∃ n', env1.var 0 [n] = .ok (.asmBuiltin n') ∧ env2.var 0 [n] = .ok (.asmBuiltin n'))
    (c : ECtx) (n : String)
    (hkn : (builtinStaticallyKnownValue n || ((p.local? n).isNone && p.queryFunction n)) = true) (hinv : CtxInv p c) :
    ∃ fv, eval env1 c (.var 0 [n]) = .ok (fv, c) ∧ eval env2 c (.var 0 [n]) = .ok (fv, c) ∧ fv.shouldPropagate = false ∧
      (fv = .builtin n ∨ ∃ n', fv = .asmBuiltin n') := by
  cases hb : isBuiltinName n with
  | true => exact ⟨.builtin n, by rw [eval_callee env1 hkn hinv, hb]; rfl, by rw [eval_callee env2 hkn hinv, hb]; rfl, rfl, .inl rfl⟩
  | false =>
    obtain ⟨n', e1, e2⟩ := hc n (known_fn_query hkn hb).2 hb
    exact ⟨.asmBuiltin n', by rw [eval_callee env1 hkn hinv, hb, e1]; rfl, by rw [eval_callee env2 hkn hinv, hb, e2]; rfl,
      rfl, .inr ⟨n', rfl⟩⟩

def EvalEnv.known (p : SKProvider) (env : EvalEnv) : EvalEnv where
  var l path :=
    if p.queryVariable l path then env.var l path else
    match l, path with
    | 0, [n] => if p.queryFunction n && !isBuiltinName n then env.var 0 [n] else .error ""
    | _, _ => .error ""
  fn f vs c :=
    match f with
    | .asmBuiltin _ => env.fn f vs c
    | _ => .error ""
  asm _ _ := .error ""

theorem AgreeLe.known_on {p : SKProvider} {env1 env2 : EvalEnv} (ag : AgreeLe p env1 env2) : AgreeOn p env1 (env1.known p) := by
  refine ⟨fun l path h => ?_, fun _ _ _ => rfl, fun n hq hb => ⟨?_, fun i h => ?_⟩⟩
  · simp only [EvalEnv.known, h, if_true]
  · simp only [EvalEnv.known, hq, hb, Bool.not_false, Bool.and_self, if_true, ite_self]
  · rcases ag.callee n hq hb with ⟨_, e1, _⟩ | e1 <;> rw [e1] at h <;> cases h

theorem AgreeLe.known_le {p : SKProvider} {env1 env2 : EvalEnv} (ag : AgreeLe p env1 env2) :
    EnvLeOn (·.isUnk = false) (env1.known p) env2 := by
  refine ⟨fun l path v h hv => ?_, fun f vs c v h hv => ?_, fun _ _ _ h => by cases h⟩
  · have hv' : v ≠ .unknown := fun e => by rw [e] at hv; cases hv
    simp only [EvalEnv.known] at h
    by_cases hq : p.queryVariable l path = true
    · rw [if_pos hq] at h; exact ag.var l path hq v h hv'
    · rw [if_neg hq] at h
      split at h
      next n =>
        rcases ite_eq_cases h with ⟨hqf, h⟩ | ⟨_, h⟩
        · rw [Bool.and_eq_true, Bool.not_eq_true'] at hqf
          rcases ag.callee n hqf.1 hqf.2 with ⟨n', e1, e2⟩ | e1
          · rw [e1] at h; cases h; exact e2
          · rw [e1] at h; cases h; exact absurd rfl hv'
        · cases h
      next => cases h
  · cases f with
    | asmBuiltin n => exact ag.fn n vs c v h fun e => by rw [e] at hv; cases hv
    | _ => cases h

/-- a statically known expression sees no more of its environment than `known` keeps (`eval_known`), and `env2`
    repeats the definite answers of that (`eval_le`) -/
theorem eval_static_le (p : SKProvider) (hp : ProviderOK p) (env1 env2 : EvalEnv) (ag : AgreeLe p env1 env2) :
    ∀ c e, staticallyKnown p e = true → CtxInv p c →
      ∀ v c', eval env1 c e = .ok (v, c') → v.isUnk = false → eval env2 c e = .ok (v, c') ∧ CtxInv p c' := by
  intro c e hk hinv v c' hev hv
  have ⟨e3, i3⟩ := eval_known hp ag.known_on e c hk hinv
  exact ⟨(eval_le isUnk_of_not_propagate ag.known_le e c v c' (e3 ▸ hev) hv).1, i3 v c' hev⟩

end Casm
