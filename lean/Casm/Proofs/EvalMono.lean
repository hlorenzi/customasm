import Casm.Proofs.EvalEqns
/-!
# Casm.Proofs.EvalMono — evaluation is monotone in its environment

Let `P` be a set of values that holds every value that does not propagate.  If every answer `ok v` with `P v` of
one environment (variables, function calls, asm blocks) is also the answer of another, then every expression
that evaluates to `ok (v, c)` with `P v` in the first evaluates to the same in the second (`eval_le`).
With `P` everything this is `eval_mono` ("strict" ≤ "guessing": guessing only replaces errors).  With `P` the
values that do not propagate it is `eval_definite`: `Unknown` and `FailedConstraint` propagate, so a definite
result was computed from definite answers only, whatever the environment says where another said `Unknown`.
`eval_static_le` uses it with `P` = "not `unknown`".

The relation between two results, `ResLe P I`, also says that the repeated result satisfies `I`; `eval_le` has
nothing to say there, but the steps (`ResLe.thenV'`, `ResLe.thenArgs`) pass an invariant along, and the resolver's
instruction matches are evaluated by the same steps (`Casm.resolve_static`).  Of the three relations "the second result
repeats the first", `ExLe` (`Casm.Proofs.ExceptLemmas`) is `ResLe` with `P` and `I` trivial, for any type of result, and
`ResEq I` (`Casm.Proofs.StaticEval`) is two-sided: the results are equal, errors too.
-/
namespace Casm

-- `EnvLeOn fun _ => True` (below), as `eval_mono` states it
structure EnvLe (env1 env2 : EvalEnv) : Prop where
  var : ∀ l p v, env1.var l p = .ok v → env2.var l p = .ok v
  fn : ∀ f a c v, env1.fn f a c = .ok v → env2.fn f a c = .ok v
  asm : ∀ t c v, env1.asm t c = .ok v → env2.asm t c = .ok v

def ResLe {α} (P : α → Prop) (I : α → ECtx → Prop) (r1 r2 : Except String (α × ECtx)) : Prop :=
  ∀ a c, r1 = .ok (a, c) → P a → r2 = .ok (a, c) ∧ I a c

theorem ResLe.refl {α} {P : α → Prop} (r : Except String (α × ECtx)) : ResLe P (fun _ _ => True) r r := fun _ _ h _ => ⟨h, trivial⟩

theorem ResLe.ok {α} {P : α → Prop} {I : α → ECtx → Prop} {a : α} {c : ECtx} (h : I a c) : ResLe P I (.ok (a, c)) (.ok (a, c)) := by
  intro a' c' e _
  cases e
  exact ⟨rfl, h⟩

theorem ResLe.retV {P : Value → Prop} {I : Value → ECtx → Prop} {c : ECtx} {r1 r2 : Except String Value} (hI : ∀ v, I v c)
    (h : ∀ v, r1 = .ok v → P v → r2 = .ok v) : ResLe P I (retV c r1) (retV c r2) := by
  intro v c' h1 hv
  obtain ⟨rfl, rfl⟩ := retV_ok h1
  rw [h v rfl hv]; exact ⟨rfl, hI v⟩

theorem ResLe.setCtx {α} {P : α → Prop} {I J : α → ECtx → Prop} {r1 r2 : Except String (α × ECtx)} {c : ECtx}
    (hr : ResLe P I r1 r2) (hJ : ∀ a, J a c) : ResLe P J (r1.map fun r => (r.1, c)) (r2.map fun r => (r.1, c)) := by
  intro a c' h ha
  obtain ⟨x, rfl, e⟩ := map_ok _ _ _ h
  cases e
  rw [(hr x.1 x.2 rfl ha).1]; exact ⟨rfl, hJ _⟩

/-- for `eval` and `evalBlock`, `Q` is `P` and `J` is `I` (`ResLe.thenV`); for an argument list `Q` says that a
    propagating argument is in `P` -/
theorem ResLe.thenV' {α} {P : Value → Prop} {Q : α → Prop} {I : Value → ECtx → Prop} {J : α → ECtx → Prop} {stop : Value → α}
    (hP : ∀ v, v.shouldPropagate = false → P v) (hQ : ∀ v, Q (stop v) → P v) (hJ : ∀ v c, I v c → J (stop v) c)
    {r1 r2 : Except String (Value × ECtx)} {k1 k2 : Value → ECtx → Except String (α × ECtx)}
    (hr : ResLe P I r1 r2) (hk : ∀ v c, v.shouldPropagate = false → I v c → ResLe Q J (k1 v c) (k2 v c)) :
    ResLe Q J (thenV stop r1 k1) (thenV stop r2 k2) := by
  intro a c' h ha
  obtain ⟨x, rfl, hx⟩ := bind_ok_inv h
  by_cases hv : x.1.shouldPropagate = true
  · rw [if_pos hv] at hx; cases hx
    obtain ⟨e, hi⟩ := hr x.1 x.2 rfl (hQ _ ha)
    rw [e]; exact ⟨if_pos hv, hJ _ _ hi⟩
  · rw [if_neg hv] at hx
    have hv' := Bool.eq_false_iff.2 hv
    obtain ⟨e, hi⟩ := hr x.1 x.2 rfl (hP _ hv')
    rw [e]; exact (hk _ _ hv' hi a c' hx ha).imp_left (if_neg hv).trans

theorem ResLe.thenV {P : Value → Prop} (hP : ∀ v, v.shouldPropagate = false → P v) {r1 r2 : Except String (Value × ECtx)}
    {k1 k2 : Value → ECtx → Except String (Value × ECtx)} (hr : ResLe P (fun _ _ => True) r1 r2)
    (hk : ∀ v c, v.shouldPropagate = false → ResLe P (fun _ _ => True) (k1 v c) (k2 v c)) :
    ResLe P (fun _ _ => True) (thenV id r1 k1) (thenV id r2 k2) :=
  .thenV' hP (fun _ => id) (fun _ _ => id) hr fun v c hv _ => hk v c hv

theorem ResLe.thenArgs {β} {P : Value → Prop} {I : Sum Value β → ECtx → Prop} {J : Value → ECtx → Prop}
    {r1 r2 : Except String (Sum Value β × ECtx)} {k1 k2 : β → ECtx → Except String (Value × ECtx)}
    (hJ : ∀ u c, I (.inl u) c → J u c) (hr : ResLe (fun s => ∀ u, s = .inl u → P u) I r1 r2)
    (hk : ∀ b c, I (.inr b) c → ResLe P J (k1 b c) (k2 b c)) : ResLe P J (thenArgs r1 k1) (thenArgs r2 k2) := by
  intro a c' h ha
  obtain ⟨⟨s, c⟩, rfl, hx⟩ := bind_ok_inv h
  cases s with
  | inl u =>
    cases hx
    obtain ⟨e, hi⟩ := hr _ _ rfl fun u' e => by cases e; exact ha
    rw [e]; exact ⟨rfl, hJ _ _ hi⟩
  | inr b =>
    obtain ⟨e, hi⟩ := hr _ _ rfl fun u' e => by cases e
    rw [e]; exact hk b c hi a c' hx ha

structure EnvLeOn (P : Value → Prop) (env1 env2 : EvalEnv) : Prop where
  var : ∀ l p v, env1.var l p = .ok v → P v → env2.var l p = .ok v
  fn : ∀ f a c v, env1.fn f a c = .ok v → P v → env2.fn f a c = .ok v
  asm : ∀ t c v, env1.asm t c = .ok v → P v → env2.asm t c = .ok v

variable {P : Value → Prop} {env1 env2 : EvalEnv}

mutual
theorem eval_le (hP : ∀ v, v.shouldPropagate = false → P v) (le : EnvLeOn P env1 env2) :
    ∀ (e : Expr) (c : ECtx), ResLe P (fun _ _ => True) (eval env1 c e) (eval env2 c e)
  | .lit v, c => by rw [eval, eval]; exact .refl _
  | .var l path, c => by
    rw [eval_var, eval_var]
    cases c.lookup l path with
    | some v => exact .refl _
    | none => exact .retV (fun _ => trivial) (le.var l path)
  | .un op e, c => by
    rw [eval_un, eval_un]
    exact .thenV hP (eval_le hP le e c) fun _ _ _ => .refl _
  | .bin op l r, c => by
    by_cases ha : op = .Assign
    · subst ha
      by_cases hl : ∃ name, l = .var 0 [name]
      · obtain ⟨name, rfl⟩ := hl
        rw [eval_assign, eval_assign]
        exact .thenV hP (eval_le hP le r c) fun _ _ _ => .refl _
      · obtain ⟨m, hm⟩ := eval_assign_bad l r fun name e => hl ⟨name, e⟩
        rw [hm, hm]; exact .refl _
    · rw [eval_bin ha, eval_bin ha]
      refine .thenV hP (eval_le hP le l c) fun lv c _ => ?_
      cases shortCircuit op lv with
      | some res => exact .refl _
      | none => exact .thenV hP (eval_le hP le r c) fun _ _ _ => .refl _
  | .tern a t f, c => by
    rw [eval_tern, eval_tern]
    refine .thenV hP (eval_le hP le a c) fun v c _ => ?_
    split
    · exact eval_le hP le t c
    · exact eval_le hP le f c
    · exact .refl _
  | .slice hi lo inner, c => by
    rw [eval_slice, eval_slice]
    refine .thenV hP (eval_le hP le inner c) fun iv c _ => ?_
    cases iv.getBigint with
    | none => exact .refl _
    | some x =>
      exact .thenV hP (eval_le hP le hi c) fun _ c _ => .thenV hP (eval_le hP le lo c) fun _ _ _ => .refl _
  | .sliceShort size inner, c => by
    rw [eval_sliceShort, eval_sliceShort]
    refine .thenV hP (eval_le hP le inner c) fun iv c _ => ?_
    cases iv.getBigint with
    | none => exact .refl _
    | some x => exact .thenV hP (eval_le hP le size c) fun _ _ _ => .refl _
  | .block es, c => by rw [eval_block, eval_block]; exact evalBlock_le hP le es c .void
  | .call f args, c => by
    rw [eval_call, eval_call]
    refine .thenV hP (eval_le hP le f c) fun fv c _ =>
      .thenArgs (fun _ _ => id) (evalArgs_le hP le args c []) fun vs c _ => .retV (fun _ => trivial) ?_
    cases fv with
    | asmBuiltin name => exact le.fn _ vs c
    | fn idx => exact le.fn _ vs c
    | _ => exact fun _ h _ => h
  | .asm text, c => by rw [eval_asm, eval_asm]; exact .retV (fun _ => trivial) (le.asm text c)

theorem evalBlock_le (hP : ∀ v, v.shouldPropagate = false → P v) (le : EnvLeOn P env1 env2) :
    ∀ (es : List Expr) (c : ECtx) (last : Value),
      ResLe P (fun _ _ => True) (evalBlock env1 c last es) (evalBlock env2 c last es)
  | [], c, last => by rw [evalBlock, evalBlock]; exact .refl _
  | e :: es, c, last => by
    rw [evalBlock_cons, evalBlock_cons]
    exact .thenV hP (eval_le hP le e c) fun v c _ => evalBlock_le hP le es c v

theorem evalArgs_le (hP : ∀ v, v.shouldPropagate = false → P v) (le : EnvLeOn P env1 env2) :
    ∀ (es : List Expr) (c : ECtx) (acc : List Value),
      ResLe (fun s => ∀ u, s = .inl u → P u) (fun _ _ => True) (evalArgs env1 c acc es) (evalArgs env2 c acc es)
  | [], c, acc => by rw [evalArgs, evalArgs]; exact .refl _
  | e :: es, c, acc => by
    rw [evalArgs_cons, evalArgs_cons]
    exact .thenV' hP (fun v h => h v rfl) (fun _ _ _ => trivial) (eval_le hP le e c) fun v c _ _ =>
      evalArgs_le hP le es c (v :: acc)
end

theorem eval_mono (env1 env2 : EvalEnv) (le : EnvLe env1 env2) :
    (∀ c e r, eval env1 c e = .ok r → eval env2 c e = .ok r) :=
  fun c e r h => (eval_le (P := fun _ => True) (fun _ _ => trivial)
    ⟨fun l p v h _ => le.var l p v h, fun f a c v h _ => le.fn f a c v h, fun t c v h _ => le.asm t c v h⟩ e c r.1 r.2 h trivial).1

-- `EnvLeOn (·.shouldPropagate = false)`, as `eval_definite` states it
structure DefLe (env1 env2 : EvalEnv) : Prop where
  var : ∀ l p v, env1.var l p = .ok v → v.shouldPropagate = false → env2.var l p = .ok v
  fn : ∀ f a c v, env1.fn f a c = .ok v → v.shouldPropagate = false → env2.fn f a c = .ok v
  asm : ∀ t c v, env1.asm t c = .ok v → v.shouldPropagate = false → env2.asm t c = .ok v

theorem eval_definite (env1 env2 : EvalEnv) (le : DefLe env1 env2) :
    (∀ c e v c', eval env1 c e = .ok (v, c') → v.shouldPropagate = false → eval env2 c e = .ok (v, c')) :=
  fun c e v c' h hv => (eval_le (fun _ => id) ⟨le.var, le.fn, le.asm⟩ e c v c' h hv).1

end Casm
