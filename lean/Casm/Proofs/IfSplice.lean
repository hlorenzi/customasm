import Casm.Model.Assemble
/-!
# Casm.Proofs.IfSplice — one round of `resolve_ifs` as a `flatMap`

`spliceOne` is what a round does with one node, and a successful round is the `flatMap` of it (`resolveIfs_ok`); a round
that splices nothing leaves every node as it is.  `ifStep` is the body of the model's fold, written out again with its
arguments exchanged: the model folds from the left over the reversed list (`resolveIfs_foldr`).
The statements of `Casm.Props.C16` are about `Casm.C16.spliceOne`, hence the namespace of this file.  It is a file of its
own, and not part of `Props.C16`, because the invariants that `Props.C16` rests on use it as well (`KindInv` and `FrontInv`
write `C16.resolveIfs_mem`, `CondLoop` opens the namespace).
-/
namespace Casm.C16

/-- what one round does with one node -/
def spliceOne (d : Decls) (defs : Defs) (n : AstNode) : List AstNode :=
  match n with
  | .ifDir cond t f =>
    match evalSimple d defs cond with
    | .ok (.bool true) => t.map AstNode.fresh
    | .ok (.bool false) => (f.getD []).map AstNode.fresh
    | _ => [n]
  | _ => [n]

theorem spliceOne_cases (d : Decls) (defs : Defs) (n : AstNode) :
    spliceOne d defs n = [n] ∨ ∃ c t f b, n = .ifDir c t f ∧ evalSimple d defs c = .ok (.bool b) ∧
      spliceOne d defs n = (bif b then t else f.getD []).map AstNode.fresh := by
  unfold spliceOne
  split
  · split
    · exact .inr ⟨_, _, _, true, rfl, ‹_›, rfl⟩
    · exact .inr ⟨_, _, _, false, rfl, ‹_›, rfl⟩
    · exact .inl rfl
  · exact .inl rfl

def ifStep (d : Decls) (defs : Defs) (n : AstNode) (acc : Except String (List AstNode × Nat)) : Except String (List AstNode × Nat) :=
  match acc with
  | .error e => .error e
  | .ok (out, count) =>
    match n with
    | .ifDir cond t f =>
      match evalSimple d defs cond with
      | .error m => .error m
      | .ok (.bool true) => .ok (t.map AstNode.fresh ++ out, count + 1)
      | .ok (.bool false) => .ok ((f.getD []).map AstNode.fresh ++ out, count + 1)
      | .ok _ => .ok (n :: out, count)
    | _ => .ok (n :: out, count)

theorem resolveIfs_foldr (d : Decls) (defs : Defs) (nodes : List AstNode) :
    resolveIfs d defs nodes = nodes.foldr (ifStep d defs) (.ok ([], 0)) := by
  unfold resolveIfs
  rw [List.foldl_reverse]
  rfl

theorem ifStep_ok {d : Decls} {defs : Defs} {n : AstNode} {acc : Except String (List AstNode × Nat)} {out' : List AstNode} {c' : Nat}
    (h : ifStep d defs n acc = .ok (out', c')) :
    ∃ out c, acc = .ok (out, c) ∧ out' = spliceOne d defs n ++ out ∧ (c' = c ∧ spliceOne d defs n = [n] ∨ c' = c + 1) := by
  cases acc with
  | error e => cases h
  | ok a =>
    obtain ⟨out, c⟩ := a
    refine ⟨out, c, rfl, ?_⟩
    cases n with
    | ifDir cond t f =>
      simp only [ifStep] at h
      simp only [spliceOne]
      cases he : evalSimple d defs cond with
      | error m => rw [he] at h; cases h
      | ok v =>
        rw [he] at h
        cases v with
        | bool b => cases b <;> (cases h; exact ⟨rfl, .inr rfl⟩)
        | _ => cases h; exact ⟨rfl, .inl ⟨rfl, rfl⟩⟩
    | _ => cases h; exact ⟨rfl, .inl ⟨rfl, rfl⟩⟩

theorem resolveIfs_ok {d : Decls} {defs : Defs} {nodes out : List AstNode} {k : Nat} (h : resolveIfs d defs nodes = .ok (out, k)) :
    out = nodes.flatMap (spliceOne d defs) ∧ (k = 0 → ∀ n ∈ nodes, spliceOne d defs n = [n]) := by
  rw [resolveIfs_foldr] at h
  induction nodes generalizing out k with
  | nil => cases h; exact ⟨rfl, fun _ _ hn => nomatch hn⟩
  | cons n rest ih =>
    obtain ⟨out1, k1, hr, rfl, hk⟩ := ifStep_ok h
    obtain ⟨rfl, hz⟩ := ih hr
    refine ⟨rfl, fun h0 m hm => ?_⟩
    rcases hk with ⟨rfl, hn⟩ | hk
    · rcases List.mem_cons.mp hm with rfl | hm
      · exact hn
      · exact hz h0 m hm
    · omega

theorem mem_spliceOne {d : Decls} {defs : Defs} {n x : AstNode} (h : x ∈ spliceOne d defs n) : x = n ∨ ∃ y : AstNode, x = y.fresh := by
  rcases spliceOne_cases d defs n with e | ⟨_, _, _, _, _, _, e⟩ <;> rw [e] at h
  · exact .inl (List.mem_singleton.mp h)
  · obtain ⟨y, _, rfl⟩ := List.mem_map.mp h
    exact .inr ⟨y, rfl⟩

theorem resolveIfs_mem {d : Decls} {defs : Defs} {nodes out : List AstNode} {k : Nat} (h : resolveIfs d defs nodes = .ok (out, k)) :
    ∀ x ∈ out, x ∈ nodes ∨ ∃ y : AstNode, x = y.fresh := by
  intro x hx
  rw [(resolveIfs_ok h).1] at hx
  obtain ⟨n, hn, hx⟩ := List.mem_flatMap.mp hx
  rcases mem_spliceOne hx with rfl | h
  · exact .inl hn
  · exact .inr h

end Casm.C16
