import Casm.Proofs.SwitchPass
import Casm.Proofs.FrontInv
import Casm.Proofs.FrontFacts
import Casm.Proofs.BudgetMono
/-!
# Casm.Proofs.BudgetPinned — with the budget of `asm`-block loops pinned, `assemble` is budget-monotone

`eval_asm` takes the budget of its own loop from `max_iterations` (finding F38).  When that budget is pinned
(`innerIter = some k`), evaluation, the item resolvers, a whole pass and the front end are the same functions whatever
`maxIter` is: the only way the outer budget reaches the result is `eval_asm`'s use of it.  Hence a program that
assembles under a budget of at least one pass assembles under every larger one to the same bits, spans and symbols
(`assemble_budget_monotone_pinned`).
-/
namespace Casm

def Static.withMax (st : Static) (n : Nat) : Static := { st with opts := { st.opts with maxIter := n } }

theorem evalVariable_max (st : Static) (n : Nat) (d : Defs) : evalVariable (st.withMax n) d = evalVariable st d := rfl
theorem evalAsmBuiltin_max (st : Static) (n : Nat) : evalAsmBuiltin (st.withMax n) = evalAsmBuiltin st := rfl

theorem SameStatic.withMax (st : Static) (n k : Nat) (hk : st.opts.innerIter = some k) : SameStatic st (st.withMax n) :=
  ⟨rfl, rfl, rfl, rfl, by show st.opts.innerIter.getD n = _; rw [hk]; rfl⟩

theorem resolveIterativelyN_max (st : Static) (n k : Nat) (hk : st.opts.innerIter = some k) (nodes : List AstNode) (max : Nat) (d : Defs) :
    resolveIterativelyN (st.withMax n) nodes max d = resolveIterativelyN st nodes max d :=
  resolveIterativelyN_static (SameStatic.withMax st n k hk) rfl nodes max d

def Opts.withMax (opts : Opts) (n : Nat) : Opts := { opts with maxIter := n }

theorem rcs_max (opts : Opts) (n : Nat) : resolveConstantsSimple (opts.withMax n) = resolveConstantsSimple opts := rfl
theorem matchAll_max (opts : Opts) (n : Nat) : matchAll (opts.withMax n) = matchAll opts := rfl

theorem declLoop_max (opts : Opts) (n : Nat) : ∀ (fuel : Nat) (d : Decls) (defs : Defs) (nodes : List AstNode) (prev : Nat),
    declLoop (opts.withMax n) fuel d defs nodes prev = declLoop opts fuel d defs nodes prev := by
  intro fuel
  induction fuel with
  | zero => intro d defs nodes prev; simp only [declLoop]
  | succ f ih => intro d defs nodes prev; simp only [declLoop, rcs_max, ih]

theorem frontEnd_max (opts : Opts) (n : Nat) (fs : SrcFiles) (roots : List (List Char)) :
    frontEnd (opts.withMax n) fs roots = (frontEnd opts fs roots).map fun x => (x.1.withMax n, x.2.1, x.2.2) := by
  have hpre : frontEndPre (opts.withMax n) fs roots = frontEndPre opts fs roots := by
    unfold frontEndPre; simp only [declLoop_max]
  unfold frontEnd
  rw [hpre, matchAll_max]
  cases frontEndPre opts fs roots with
  | error e => rfl
  | ok x => simp only; split <;> rfl

theorem assemble_budget_monotone_pinned (opts : Opts) (k : Nat) (hk : opts.innerIter = some k) (fs : SrcFiles) (roots : List (List Char))
    (n m : Nat) (hn : 1 ≤ n) (hnm : n ≤ m) (out : AsmOk) (h : assemble (opts.withMax n) fs roots = .ok out) :
    ∃ out', assemble (opts.withMax m) fs roots = .ok out' ∧ out'.core = out.core := by
  rw [assemble_eq, frontEnd_max] at h ⊢
  obtain ⟨_, hx, h⟩ := bind_ok_inv h
  obtain ⟨⟨st, nodes, d0⟩, hf, rfl⟩ := map_ok _ _ _ hx
  obtain ⟨⟨it, d, rep⟩, hr, h⟩ := bind_ok_inv h
  have hki : st.opts.innerIter = some k := by rw [(frontEnd_opts opts fs roots st nodes d0 hf).1]; exact hk
  have hrun : ∀ j, resolveIteratively (st.withMax j) nodes d0 = resolveIterativelyN st nodes j d0 :=
    fun j => resolveIterativelyN_max st j k hki nodes j d0
  rw [hrun] at hr
  obtain ⟨k', hr'⟩ := budget_monotone_any st nodes (frontEnd_noClash opts fs roots st nodes d0 hf)
    (frontEnd_uniq opts fs roots st nodes d0 hf) d0 (frontEnd_nodesOK opts fs roots st nodes d0 hf) n m hn hnm it d rep hr
  rw [hf]
  show ∃ out', (resolveIteratively (st.withMax m) nodes d0).bind (emit (opts.withMax m) (st.withMax m) nodes) = .ok out' ∧ _
  rw [hrun, hr']
  -- what is emitted does not depend on the budget, nor, but for the count reported, on the number of passes
  exact map_ok _ _ _ ((emit_core_congr (k := it) rfl rfl rfl rfl).trans (congrArg (Except.map AsmOk.core) h))

end Casm
