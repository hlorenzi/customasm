import Casm.Proofs.StableId
import Casm.Proofs.FrontPhases
import Casm.Proofs.IfSplice
/-!
# Casm.Proofs.KindInv — the front end never lets a constant and a label share a symbol slot

Every symbol node that carries a reference points at a declaration of its own kind (label
nodes at label declarations, constant nodes at constant declarations), and every function node at a function
declaration: `KN` says it of one node, `KInv` of a node list.  Declarations are only ever
appended and keep their kind, so the invariant survives every declaration pass, every `#if` splice
(which only adds reference-free nodes) and `define_remaining`.  Two nodes of different kind can
therefore not share a slot (`frontEnd_noClash`).
-/
namespace Casm

def KN (m : SymMgr) : AstNode → Prop
  | .symbol _ _ k _ (some r) => r < m.decls.length ∧ (m.decls.getD r default).kind = kindOfSym k
  | .fn _ _ _ (some r) => r < m.decls.length ∧ (m.decls.getD r default).kind = .function
  | _ => True

def KInv (m : SymMgr) (nodes : List AstNode) : Prop := ∀ n ∈ nodes, KN m n

theorem KN_mono {m m' : SymMgr} (h : DeclExt m m') (n : AstNode) (hn : KN m n) : KN m' n := by
  have keep : ∀ {r k}, r < m.decls.length ∧ (m.decls.getD r default).kind = k →
      r < m'.decls.length ∧ (m'.decls.getD r default).kind = k :=
    fun hr => ⟨Nat.lt_of_lt_of_le hr.1 h.1, (h.kind hr.1).trans hr.2⟩
  unfold KN at hn ⊢
  split
  · exact keep hn
  · exact keep hn
  · trivial

theorem KN_fresh (m : SymMgr) (n : AstNode) : KN m n.fresh := by
  cases n <;> exact trivial

theorem KN_item (m : SymMgr) {n : AstNode} (h : n.isItem = true) : KN m n := by
  cases n with
  | symbol | fn => cases h
  | _ => trivial

theorem KInv_noClash (m : SymMgr) (nodes : List AstNode) (h : KInv m nodes) : NoClash nodes := by
  intro a ha b hb hc
  unfold Clash at hc
  split at hc
  · -- the declaration of the shared slot would be a constant and a label
    subst hc
    cases (h _ ha).2.symm.trans (h _ hb).2
  · exact hc

theorem KInv.init (m : SymMgr) (parsed : List AstNode) : KInv m (parsed.map AstNode.fresh) := by
  intro x hx
  obtain ⟨y, _, rfl⟩ := List.mem_map.mp hx
  exact KN_fresh m y

theorem KInv.declStep {d d' : Decls} {pre post : List AstNode} {n n' : AstNode} (hk : KInv d.symbols (pre ++ n :: post))
    (h : DeclStep d n d' n') : KInv d'.symbols (pre ++ n' :: post) := fun x hx => by
  rcases h.mem hx with hx | ⟨rfl, -⟩
  · exact KN_mono h.ext x (hk x hx)
  · cases h with
    | same => exact hk _ (List.mem_append_right _ List.mem_cons_self)
    | symbol _ hd => exact declare_kind hd
    | fn hd => exact declare_kind hd
    | _ => trivial

theorem collectAll_kinv {d d' : Decls} {nodes nodes' : List AstNode} (hk : KInv d.symbols nodes)
    (h : collectAll d nodes = .ok (d', nodes')) : KInv d'.symbols nodes' :=
  (collectAll_steps h).inv (P := fun d l => KInv d.symbols l) KInv.declStep hk

theorem resolveIfs_kinv {m : SymMgr} {d : Decls} {defs : Defs} {nodes out : List AstNode} {k : Nat}
    (hk : KInv m nodes) (h : resolveIfs d defs nodes = .ok (out, k)) : KInv m out := by
  intro x hx
  rcases C16.resolveIfs_mem h x hx with hn | ⟨y, rfl⟩
  · exact hk x hn
  · exact KN_fresh m y

theorem KInv.round {opts : Opts} {d defs nodes d1 n1 defs2 cnt nodes2 ifs} (r : Round opts d defs nodes d1 n1 defs2 cnt nodes2 ifs)
    (hk : KInv d.symbols nodes) : KInv d1.symbols nodes2 :=
  resolveIfs_kinv (collectAll_kinv hk r.collect) r.ifs

theorem declLoop_kinv (opts : Opts) {fuel : Nat} {d : Decls} {defs : Defs} {nodes : List AstNode} {prev : Nat} {d' : Decls} {defs' : Defs}
    {nodes' : List AstNode} (hk : KInv d.symbols nodes) (h : declLoop opts fuel d defs nodes prev = .ok (d', defs', nodes')) :
    KInv d'.symbols nodes' :=
  declLoop_inv opts (fun d _ l => KInv d.symbols l) KInv.round h hk

theorem defineRemaining_kinv {m : SymMgr} {d : Decls} {defs defs' : Defs} {nodes nodes' : List AstNode} (hk : KInv m nodes)
    (h : defineRemaining d defs nodes = .ok (defs', nodes')) : KInv m nodes' := by
  intro x hx
  rcases (defineRemaining_frame h).2 x hx with hn | hi
  · exact hk x hn
  · exact KN_item m hi

theorem frontEndPre_kinv {opts : Opts} {fs : SrcFiles} {roots : List (List Char)} {d : Decls} {defs : Defs} {nodes : List AstNode}
    (hp : frontEndPre opts fs roots = .ok (d, defs, nodes)) : KInv d.symbols nodes :=
  frontEndPre_inv (fun d _ l => KInv d.symbols l) (fun d _ l => KInv d.symbols l) (fun _ => KInv.init _) KInv.round
    (fun hr hk => defineRemaining_kinv hk hr) hp

theorem frontEnd_noClash (opts : Opts) (fs : SrcFiles) (roots : List (List Char)) (st : Static) (nodes : List AstNode) (defs : Defs)
    (h : frontEnd opts fs roots = .ok (st, nodes, defs)) : NoClash nodes := by
  obtain ⟨_, _, hp, _⟩ := frontEnd_ok h
  exact KInv_noClash _ _ (frontEndPre_kinv hp)

end Casm
