/-!
# Casm.Proofs.Iterate — the shape of customasm's `resolve_iteratively`, generically

`loop`/`iterate` are the control skeleton of `src/asm/resolver/mod.rs resolve_iteratively` over an
arbitrary pass.  `run` is `iterate` taken up at the state after `i` passes, one pass at a time
(`run_last`, `run_next`); through it: what a successful iteration consists of (`iterate_ok_inv`),
budget monotonicity from laws of the pass (`LawsOn`, `budget_monotone_on`), and two iterations in
lockstep (`run_map`).  `Casm.Proofs.IterModel` puts the model's `resolveOnce` in place of the pass.
-/
namespace Casm.Iter

inductive Out (α : Type) where
  | ok (a : α)
  | err
deriving Repr, DecidableEq

structure Flags where
  first : Bool
  last : Bool
deriving Repr, DecidableEq

/-- a pass: new state and whether everything was stable (`Resolved`) -/
abbrev Pass (σ : Type) := Flags → σ → Out (σ × Bool)

/-- the `while iter_count < max_iterations` loop of `resolve_iteratively`, `fuel = max - i`;
    `Sum.inl`: a final answer, `Sum.inr`: on to the confirming pass -/
def loop {σ} (pass : Pass σ) (max : Nat) : (fuel : Nat) → (i : Nat) → σ → Out (Sum (Nat × σ) (Nat × σ))
  | 0, i, s => .ok (.inr (i, s))
  | fuel+1, i, s =>
    let it := i + 1
    let fl : Flags := ⟨it == 1, it == max⟩
    match pass fl s with
    | .err => .err
    | .ok (s', true) => if fl.last then .ok (.inl (it, s')) else .ok (.inr (it, s'))
    | .ok (s', false) => if fl.last then .err else loop pass max fuel it s'

def iterate {σ} (pass : Pass σ) (max : Nat) (s : σ) : Out (Nat × σ) :=
  match loop pass max max 0 s with
  | .err => .err
  | .ok (.inl r) => .ok r
  | .ok (.inr (i, s')) =>
    match pass ⟨false, true⟩ s' with
    | .ok (s'', true) => .ok (i, s'')
    | _ => .err

def confirm {σ} (pass : Pass σ) (i : Nat) (s : σ) : Out (Nat × σ) :=
  match pass ⟨false, true⟩ s with
  | .ok (s', true) => .ok (i, s')
  | _ => .err

def run {σ} (pass : Pass σ) (max fuel i : Nat) (s : σ) : Out (Nat × σ) :=
  match loop pass max fuel i s with
  | .err => .err
  | .ok (.inl r) => .ok r
  | .ok (.inr (k, s')) => confirm pass k s'

theorem iterate_eq_run {σ} (pass : Pass σ) (max : Nat) (s : σ) : iterate pass max s = run pass max max 0 s := by
  unfold iterate run confirm
  cases loop pass max max 0 s with
  | err => rfl
  | ok x => cases x <;> rfl

theorem confirm_ok {σ} {pass : Pass σ} {i k : Nat} {s r : σ} :
    confirm pass i s = .ok (k, r) ↔ k = i ∧ pass ⟨false, true⟩ s = .ok (r, true) := by
  unfold confirm
  cases pass ⟨false, true⟩ s with
  | err => exact ⟨nofun, fun h => nomatch h.2⟩
  | ok x =>
    obtain ⟨s', b⟩ := x
    cases b with
    | false => exact ⟨nofun, fun h => nomatch h.2⟩
    | true => exact ⟨fun h => by cases h; exact ⟨rfl, rfl⟩, fun ⟨hk, h⟩ => by cases h; rw [hk]⟩

theorem run_last {σ} (pass : Pass σ) {max i : Nat} (fuel : Nat) (s : σ) (hl : i + 1 = max) :
    run pass max (fuel + 1) i s =
      match pass ⟨i + 1 == 1, true⟩ s with
      | .ok (s', true) => .ok (max, s')
      | _ => .err := by
  subst hl
  simp only [run, loop, beq_self_eq_true]
  cases pass ⟨i + 1 == 1, true⟩ s with
  | err => rfl
  | ok x => obtain ⟨s', b⟩ := x; cases b <;> rfl

theorem run_next {σ} (pass : Pass σ) {max i : Nat} (fuel : Nat) (s : σ) (hl : i + 1 ≠ max) :
    run pass max (fuel + 1) i s =
      match pass ⟨i + 1 == 1, false⟩ s with
      | .err => .err
      | .ok (s', true) => confirm pass (i + 1) s'
      | .ok (s', false) => run pass max fuel (i + 1) s' := by
  simp only [run, loop, beq_false_of_ne hl]
  cases pass ⟨i + 1 == 1, false⟩ s with
  | err => rfl
  | ok x => obtain ⟨s', b⟩ := x; cases b <;> rfl

theorem run_ok_inv {σ} (pass : Pass σ) (max : Nat) {I : Nat → σ → Prop} {k : Nat} {r : σ}
    (step : ∀ i s s' b, i + 1 < max → I i s → pass ⟨i + 1 == 1, false⟩ s = .ok (s', b) → I (i + 1) s') :
    ∀ fuel i s, I i s → i + fuel = max → run pass max fuel i s = .ok (k, r) →
      k ≤ max ∧ ∃ j s' f, I j s' ∧ pass ⟨f, true⟩ s' = .ok (r, true) ∧ (f = true → j = 0 ∧ max = 1) ∧
        (f = false → 1 ≤ j ∨ max = 0) := by
  intro fuel
  induction fuel with
  | zero =>
    intro i s hI hi h
    obtain ⟨rfl, hp⟩ := confirm_ok.mp h
    exact ⟨by omega, k, s, false, hI, hp, nofun, fun _ => by omega⟩
  | succ n ih =>
    intro i s hI hi h
    by_cases hl : i + 1 = max
    · rw [run_last pass n s hl] at h
      split at h
      · rename_i s' hp
        cases h
        refine ⟨Nat.le_refl _, i, s, _, hI, hp, fun hf => ?_, fun hf => ?_⟩
        · have : i + 1 = 1 := by simpa using hf
          omega
        · have : i + 1 ≠ 1 := by simpa using hf
          omega
      · cases h
    · rw [run_next pass n s hl] at h
      split at h
      · cases h
      · rename_i s' hp
        obtain ⟨rfl, hq⟩ := confirm_ok.mp h
        exact ⟨by omega, i + 1, s', false, step i s s' true (by omega) hI hp, hq, nofun, fun _ => .inl (by omega)⟩
      · rename_i s' hp
        exact ih (i + 1) s' (step i s s' false (by omega) hI hp) (by omega) h

/-- `I i s`: `s` is the state after `i` passes.  The pass that returns `r` is pass number `max` (then
    `f` says whether it is also the first), or the confirming pass (`f = false`), after at least one
    pass unless the budget is 0. -/
theorem iterate_ok_inv {σ} (pass : Pass σ) (max : Nat) {I : Nat → σ → Prop} {s : σ} {k : Nat} {r : σ} (h0 : I 0 s)
    (step : ∀ i s s' b, i + 1 < max → I i s → pass ⟨i + 1 == 1, false⟩ s = .ok (s', b) → I (i + 1) s')
    (h : iterate pass max s = .ok (k, r)) :
    k ≤ max ∧ ∃ i s' f, I i s' ∧ pass ⟨f, true⟩ s' = .ok (r, true) ∧ (f = true → i = 0 ∧ max = 1) ∧
      (f = false → 1 ≤ i ∨ max = 0) :=
  run_ok_inv pass max step max 0 s h0 (Nat.zero_add _) (iterate_eq_run pass max s ▸ h)

theorem iterate_ok_last_pass {σ} (pass : Pass σ) (max : Nat) (s : σ) (k : Nat) (r : σ)
    (h : iterate pass max s = .ok (k, r)) :
    ∃ s' f, pass ⟨f, true⟩ s' = .ok (r, true) := by
  obtain ⟨_, _, s', f, _, hp, _⟩ := iterate_ok_inv (I := fun _ _ => True) pass max trivial (fun _ _ _ _ _ _ _ => trivial) h
  exact ⟨s', f, hp⟩

theorem iters_le_budget {σ} (pass : Pass σ) (max : Nat) (s : σ) (k : Nat) (r : σ)
    (h : iterate pass max s = .ok (k, r)) : k ≤ max :=
  (iterate_ok_inv (I := fun _ _ => True) pass max trivial (fun _ _ _ _ _ _ _ => trivial) h).1

def LastFix {σ} (pass : Pass σ) (r : σ) : Prop := ∃ f, pass ⟨f, true⟩ r = .ok (r, true)

/-- every item compares its new value *and size* with the previous one -/
def StableIsIdentity {σ} (pass : Pass σ) : Prop :=
  ∀ l s s', pass ⟨false, l⟩ s = .ok (s', true) → s' = s

/-- the first pass may assign the statically known items without comparing (they are
    marked `resolved` and skipped from then on) -/
def FirstStable {σ} (pass : Pass σ) : Prop :=
  ∀ l s s', pass ⟨true, l⟩ s = .ok (s', true) → LastFix pass s'

theorem C02_fixed_point {σ} (pass : Pass σ) (hs : StableIsIdentity pass) (hf : FirstStable pass)
    (max : Nat) (s : σ) (k : Nat) (r : σ)
    (h : iterate pass max s = .ok (k, r)) :
    LastFix pass r := by
  obtain ⟨s', f, hp⟩ := iterate_ok_last_pass pass max s k r h
  cases f with
  | false =>
    have : r = s' := hs _ _ _ hp
    subst this
    exact ⟨false, hp⟩
  | true => exact hf _ _ _ hp

structure Laws {σ} (pass : Pass σ) : Prop where
  stableId : StableIsIdentity pass
  firstStable : FirstStable pass
  /-- guessing only replaces errors by `Unknown`; `b = false` only for `#assert` -/
  modeMono : ∀ f s s', pass ⟨f, true⟩ s = .ok (s', true) → ∃ b, pass ⟨f, false⟩ s = .ok (s', b)
  /-- the `first` flag only sets short-cut marks -/
  firstIrrel : ∀ r, LastFix pass r → ∀ f, pass ⟨f, true⟩ r = .ok (r, true)

/-- `I`: the model's pass obeys `stableId` on well-formed states only, and returns only such -/
structure LawsOn {σ} (pass : Pass σ) (I : σ → Prop) : Prop where
  inv : ∀ fl s s' b, pass fl s = .ok (s', b) → I s'
  stableId : ∀ l s s', I s → pass ⟨false, l⟩ s = .ok (s', true) → s' = s
  modeMono : ∀ f s s', pass ⟨f, true⟩ s = .ok (s', true) → ∃ b, pass ⟨f, false⟩ s = .ok (s', b)

def Fix {σ} (pass : Pass σ) (r : σ) : Prop := pass ⟨false, true⟩ r = .ok (r, true)

theorem run_from_fix {σ} {pass : Pass σ} {I : σ → Prop} (L : LawsOn pass I) (m : Nat) {r : σ} (hr : Fix pass r) :
    ∀ fuel i, 1 ≤ i → i + fuel = m → ∃ k, run pass m fuel i r = .ok (k, r) := by
  intro fuel
  induction fuel with
  | zero => intro i _ _; exact ⟨i, confirm_ok.mpr ⟨rfl, hr⟩⟩
  | succ n ih =>
    intro i h1 hi
    have hf : (i + 1 == 1) = false := beq_false_of_ne (by omega)
    by_cases hl : i + 1 = m
    · exact ⟨m, by rw [run_last pass n r hl, hf, hr]⟩
    · obtain ⟨b, hb⟩ := L.modeMono _ _ _ hr
      rw [run_next pass n r hl, hf, hb]
      cases b with
      | true => exact ⟨i + 1, confirm_ok.mpr ⟨rfl, hr⟩⟩
      | false => exact ih (i + 1) (by omega) (by omega)

/-- Budgets `n ≤ m` side by side from the same point: they run the same passes up to pass `n`;
    that one, strict and stable under the small budget, leaves a fixed point (by the premise on
    `i + 1 = n` if it is the pass taken first from `s`, by `stableId` if it is a later one), where the
    large budget goes on guessing and stays. -/
theorem run_mono {σ} {pass : Pass σ} {I : σ → Prop} (L : LawsOn pass I) {n m : Nat} (hnm : n ≤ m) {k : Nat} {r : σ} :
    ∀ fuel i s, i + fuel = n → i < n →
      (i + 1 = n → ∀ s', pass ⟨i + 1 == 1, true⟩ s = .ok (s', true) → Fix pass s') →
      run pass n fuel i s = .ok (k, r) → ∃ k', run pass m (fuel + (m - n)) i s = .ok (k', r) := by
  intro fuel
  induction fuel with
  | zero => intro i s hi hlt; omega
  | succ f ih =>
    intro i s hi _ hlast h
    rw [show f + 1 + (m - n) = f + (m - n) + 1 by omega]
    by_cases hl : i + 1 = n
    · rw [run_last pass f s hl] at h
      split at h
      · rename_i s' hp
        cases h
        have hfix := hlast hl r hp
        by_cases hm : i + 1 = m
        · exact ⟨m, by rw [run_last pass _ s hm, hp]⟩
        · obtain ⟨b, hb⟩ := L.modeMono _ _ _ hp
          rw [run_next pass _ s hm, hb]
          cases b with
          | true => exact ⟨i + 1, confirm_ok.mpr ⟨rfl, hfix⟩⟩
          | false => exact run_from_fix L m hfix _ _ (by omega) (by omega)
      · cases h
    · rw [run_next pass f s hl] at h
      rw [run_next pass _ s (by omega)]
      split at h
      · cases h
      · exact ⟨k, h⟩
      · rename_i s' hp
        refine ih (i + 1) s' (by omega) (by omega) (fun _ s'' hq => ?_) h
        -- pass `i + 2` is not the first: stable, it returned the state it was given
        have hf : (i + 1 + 1 == 1) = false := by simp
        rw [hf] at hq
        cases L.stableId _ _ _ (L.inv _ _ _ _ hp) hq
        exact hq

theorem budget_monotone_on {σ} (pass : Pass σ) {I : σ → Prop} (L : LawsOn pass I) (n m : Nat) (hn : 1 ≤ n) (hnm : n ≤ m)
    (s : σ) (h1 : n = 1 → ∀ s', pass ⟨true, true⟩ s = .ok (s', true) → Fix pass s')
    (k : Nat) (r : σ) (h : iterate pass n s = .ok (k, r)) :
    ∃ k', iterate pass m s = .ok (k', r) := by
  rw [iterate_eq_run] at h ⊢
  have := run_mono L hnm n 0 s (Nat.zero_add n) hn (fun h0 => h1 (by omega)) h
  rwa [show n + (m - n) = m by omega] at this

theorem Laws.on {σ} {pass : Pass σ} (L : Laws pass) : LawsOn pass (fun _ => True) :=
  ⟨fun _ _ _ _ _ => trivial, fun l s s' _ => L.stableId l s s', L.modeMono⟩

theorem budget_monotone {σ} (pass : Pass σ) (L : Laws pass) (n m : Nat) (hn : 1 ≤ n) (hnm : n ≤ m)
    (s : σ) (k : Nat) (r : σ) (h : iterate pass n s = .ok (k, r)) :
    ∃ k', iterate pass m s = .ok (k', r) :=
  budget_monotone_on pass L.on n m hn hnm s
    (fun _ s' hp => L.firstIrrel s' (L.firstStable _ _ _ hp) false) k r h

def Out.map {α β} (f : α → β) : Out α → Out β
  | .ok a => .ok (f a)
  | .err => .err

theorem confirm_map {σ τ} (g : σ → τ) {p : Pass σ} {q : Pass τ}
    (h : ∀ fl s, q fl (g s) = (p fl s).map fun x => (g x.1, x.2)) (i : Nat) (s : σ) :
    confirm q i (g s) = (confirm p i s).map fun x => (x.1, g x.2) := by
  unfold confirm
  rw [h]
  cases p ⟨false, true⟩ s with
  | err => rfl
  | ok y => obtain ⟨s', b⟩ := y; cases b <;> rfl

theorem run_map {σ τ} (g : σ → τ) (p : Pass σ) (q : Pass τ) (max : Nat)
    (h : ∀ fl s, q fl (g s) = (p fl s).map fun x => (g x.1, x.2)) :
    ∀ fuel i s, run q max fuel i (g s) = (run p max fuel i s).map fun x => (x.1, g x.2) := by
  intro fuel
  induction fuel with
  | zero => exact confirm_map g h
  | succ n ih =>
    intro i s
    by_cases hl : i + 1 = max
    · rw [run_last q n _ hl, run_last p n s hl, h]
      cases p ⟨i + 1 == 1, true⟩ s with
      | err => rfl
      | ok y => obtain ⟨s', b⟩ := y; cases b <;> rfl
    · rw [run_next q n _ hl, run_next p n s hl, h]
      cases p ⟨i + 1 == 1, false⟩ s with
      | err => rfl
      | ok y =>
        obtain ⟨s', b⟩ := y
        cases b with
        | true => exact confirm_map g h (i + 1) s'
        | false => exact ih (i + 1) s'

theorem iterate_map {σ τ} (g : σ → τ) (p : Pass σ) (q : Pass τ) (max : Nat)
    (h : ∀ fl s, q fl (g s) = (p fl s).map fun x => (g x.1, x.2)) (s : σ) :
    iterate q max (g s) = (iterate p max s).map fun x => (x.1, g x.2) := by
  rw [iterate_eq_run, iterate_eq_run]
  exact run_map g p q max h max 0 s

end Casm.Iter
