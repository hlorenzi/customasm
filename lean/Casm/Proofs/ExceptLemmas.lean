/-!
# Casm.Proofs.ExceptLemmas — `Except` and `if`: which way a computation went

The model is written with `match … | .error e => .error e | .ok a => …` ladders, `do` blocks and guards
`if c then .error e else …`.  These lemmas invert one rung, move a `bind` or a `map` across one, or (`ExLe`) carry
"the second computation repeats the results of the first" over one.
-/
namespace Casm

theorem ite_eq_cases {α : Type} {c : Prop} [Decidable c] {x y r : α} (h : (if c then x else y) = r) :
    c ∧ x = r ∨ ¬ c ∧ y = r := by
  by_cases hc : c
  · rw [if_pos hc] at h; exact .inl ⟨hc, h⟩
  · rw [if_neg hc] at h; exact .inr ⟨hc, h⟩

theorem guard_ok {ε α : Type} {c : Prop} [Decidable c] {e : ε} {x : Except ε α} {a : α}
    (h : (if c then .error e else x) = .ok a) : ¬ c ∧ x = .ok a :=
  (ite_eq_cases h).resolve_left fun hc => nomatch hc.2

theorem guard_some {α : Type} {c : Prop} [Decidable c] {x : Option α} {a : α} (h : (if c then none else x) = some a) :
    ¬ c ∧ x = some a :=
  (ite_eq_cases h).resolve_left fun hc => nomatch hc.2

theorem guard_nil {α : Type} {c : Prop} [Decidable c] {e : List String} {x : Except (List String) α}
    (he : c → e ≠ []) (h : (if c then .error e else x) = .error []) : x = .error [] :=
  ((ite_eq_cases h).resolve_left fun hc => he hc.1 (Except.error.inj hc.2)).2

theorem bind_ok_inv {ε β γ} {x : Except ε β} {f : β → Except ε γ} {y : γ} (h : x.bind f = .ok y) :
    ∃ b, x = .ok b ∧ f b = .ok y := by
  cases x with
  | error m => cases h
  | ok b => exact ⟨b, rfl, h⟩

theorem bind_ok_inv' {ε β γ} {x : Except ε β} {f : β → Except ε γ} {y : γ} (h : x.bind f = .ok y) : ∃ b, f b = .ok y :=
  (bind_ok_inv h).imp fun _ => And.right

theorem map_ok {ε α β} (x : Except ε α) (f : α → β) (r : β) (h : x.map f = .ok r) : ∃ a, x = .ok a ∧ f a = r := by
  cases x with
  | error e => cases h
  | ok a => exact ⟨a, rfl, by injection h⟩

theorem bind_error {ε α β} (m : ε) (f : α → Except ε β) : (Except.error m).bind f = .error m := rfl
theorem bind_ok {ε α β} (a : α) (f : α → Except ε β) : (Except.ok a : Except ε α).bind f = f a := rfl

theorem bind_ite {ε α β} (c : Prop) [Decidable c] (A B : Except ε α) (f : α → Except ε β) :
    (if c then A else B).bind f = if c then A.bind f else B.bind f := by
  split <;> rfl

theorem map_eq_self {ε α} {x : Except ε α} {f : α → α} (h : ∀ a, x = .ok a → f a = a) : x = x.map f := by
  cases x with
  | error m => rfl
  | ok a => exact congrArg Except.ok (h a rfl).symm

theorem bind_map_congr {ε β γ} {x : Except ε β} {f f' : β → Except ε γ} {g : γ → γ} (h : ∀ a, f' a = (f a).map g) :
    x.bind f' = (x.bind f).map g := by
  cases x with
  | error m => rfl
  | ok a => exact h a

theorem bind_rel_congr {ε α α' β γ δ : Type} {x : Except ε α} {y : Except ε α'} {p : α → γ} {p' : α' → γ}
    {f : α → Except ε β} {g : α' → Except ε β} {q : β → δ} (h : x.map p = y.map p')
    (hfg : ∀ a b, p a = p' b → (f a).map q = (g b).map q) : (x.bind f).map q = (y.bind g).map q := by
  cases x with
  | error m =>
    cases y with
    | error m' => cases h; rfl
    | ok b => cases h
  | ok a =>
    cases y with
    | error m' => cases h
    | ok b => exact hfg a b (Except.ok.inj h)

/-- two runs side by side: they fail alike, or both succeed with related results -/
def ExRel {ε α β : Type} (R : α → β → Prop) (x : Except ε α) (y : Except ε β) : Prop :=
  match x with
  | .error e => y = .error e
  | .ok a => ∃ b, y = .ok b ∧ R a b

theorem ExRel.cases {ε α β : Type} {R : α → β → Prop} {x : Except ε α} {y : Except ε β} (h : ExRel R x y) :
    (∃ e, x = .error e ∧ y = .error e) ∨ ∃ a b, x = .ok a ∧ y = .ok b ∧ R a b := by
  cases x with
  | error e => exact .inl ⟨e, rfl, h⟩
  | ok a => obtain ⟨b, hb, r⟩ := h; exact .inr ⟨a, b, rfl, hb, r⟩

theorem ExRel.eq_map {ε α β : Type} {R : α → β → Prop} {x : Except ε α} {y : Except ε β} {g : α → β} (h : ExRel R x y)
    (hg : ∀ a b, x = .ok a → R a b → b = g a) : y = x.map g := by
  rcases h.cases with ⟨e, rfl, rfl⟩ | ⟨a, b, rfl, rfl, r⟩
  · rfl
  · rw [hg a b rfl r]; rfl

def ExLe {ε α : Type} (x y : Except ε α) : Prop := ∀ a, x = .ok a → y = .ok a

theorem ExLe.refl {ε α : Type} (x : Except ε α) : ExLe x x := fun _ h => h

theorem ExLe.bind {ε α β : Type} {x y : Except ε α} {f g : α → Except ε β} (h : ExLe x y) (hf : ∀ a, ExLe (f a) (g a)) :
    ExLe (x.bind f) (y.bind g) := by
  intro b hb
  obtain ⟨a, ha, hb⟩ := bind_ok_inv hb
  rw [h a ha]
  exact hf a b hb

theorem ExLe.map {ε α β : Type} {x y : Except ε α} (h : ExLe x y) (f : α → β) : ExLe (x.map f) (y.map f) :=
  h.bind fun _ => .refl _

theorem ExLe.ite {ε α : Type} {c : Prop} [Decidable c] {x x' y y' : Except ε α} (h : ExLe x y) (h' : ExLe x' y') :
    ExLe (if c then x else x') (if c then y else y') := by
  split
  · exact h
  · exact h'

theorem ExLe.guard {ε α : Type} {c c' : Prop} [Decidable c] [Decidable c'] {e e' : ε} {x : Except ε α} (h : c' → c) :
    ExLe (if c then .error e else x) (if c' then .error e' else x) := fun _ ha =>
  (if_neg fun hc' => (guard_ok ha).1 (h hc')).trans (guard_ok ha).2

end Casm
