import Casm.Proofs.ViewCongr
import Casm.Proofs.UnfreezeS
import Casm.Proofs.PassFold
/-!
# Casm.Proofs.SwitchPass — what a step reads of the static switch

Beyond what evaluation reads (`SameStatic`), the item resolvers read `optimize_statically_known`, and only in
conjunction with `is_first_iteration`: the *mark*, which decides whether a constant, an instruction or a data
element is frozen (`dispatch_congr`).  Hence a pass that is not the first is the same with the switch set either way
(`resolveOnce_switch`).  What the mark does to one step is `dispatch_mark`: nothing, or the step freezes its item —
it stores, marked, what the step of a later pass stores (`Froze`).
-/
namespace Casm

theorem off_opt (st : Static) : (st.withStatic false).opts.optStatic = false := rfl

theorem setFirst_last (c : RCtx) (b : Bool) : (c.setFirst b).last = c.last := rfl
theorem setFirst_first (c : RCtx) (b : Bool) : (c.setFirst b).first = b := rfl
theorem setFirst_bank (c : RCtx) (b : Bool) : (c.setFirst b).bank = c.bank := rfl

theorem dispatch_congr {st st' : Static} (hs : SameStatic st st') (d : Defs) (ctx : RCtx) (b : Bool) (n : AstNode) (k : Nat)
    (ho : (st'.opts.optStatic && b) = (st.opts.optStatic && ctx.first)) :
    dispatch st' d (ctx.setFirst b) n k = dispatch st d ctx n k := by
  have he : resolverEval st' d (ctx.setFirst b) = resolverEval st d ctx := by
    rw [resolverEval_congr hs (.refl d), resolverEval_first]
  have hr : resolveEncoding st' d evalFuel (ctx.setFirst b) = resolveEncoding st d evalFuel ctx := by
    rw [resolveEncoding_congr hs (.refl d), resolveEncoding_first]
  have ha : allDefinite st' d (ctx.setFirst b) = allDefinite st d ctx := by
    rw [allDefinite_congr hs (.refl d)]; exact funext (allDefinite_first st d ctx b)
  unfold dispatch
  split
  next level name kind ne ref =>
    cases kind with
    | label => rfl
    | constant e => simp only [resolveConstant_eq, he, ho, setFirst_first, setFirst_last]
  · simp only [resolveInstruction_eq, hr, ha, ho, setFirst_first, setFirst_last]
  · simp only [resolveData_eq, he, ho, setFirst_first, setFirst_last]
  · simp only [resolveRes_eq, he, setFirst_last, setFirst_bank]
  · simp only [resolveAlign_eq, he, setFirst_last]
  · simp only [resolveAddr_eq, he, setFirst_last, setFirst_bank]
  · simp only [resolveAssert_eq, he, setFirst_last]
  · rfl

theorem dispatch_switch (st : Static) (b : Bool) (d : Defs) (ctx : RCtx) (n : AstNode) (k : Nat) (hf : ctx.first = false) :
    dispatch (st.withStatic b) d ctx n k = dispatch st d ctx n k :=
  dispatch_congr (.withStatic st b) d ctx ctx.first n k (by simp only [hf, Bool.and_false])

theorem resolveOnce_static {st st' : Static} (hs : SameStatic st st') (first last : Bool)
    (ho : (st'.opts.optStatic && first) = (st.opts.optStatic && first)) (nodes : List AstNode) (d : Defs) :
    resolveOnce st' nodes first last d = resolveOnce st nodes first last d := by
  have hn : nodeItem st' = nodeItem st := by funext d n k; simp only [nodeItem, hs.decls]
  have hc : stepCtx st' = stepCtx st := by funext sc n; simp only [stepCtx, hs.decls]
  refine resolveOnce_congr nodes (fun ps n k _ => ?_) d
  have hd : ∀ d sc b p, dispatch st' d ⟨first, last, sc, b, p⟩ n k = dispatch st d ⟨first, last, sc, b, p⟩ n k :=
    fun d sc b p => dispatch_congr hs d ⟨first, last, sc, b, p⟩ first n k ho
  rw [passNode_eq', passNode_eq']
  simp only [hn, hc, hd]

theorem resolveOnce_switch (st : Static) (b last : Bool) (nodes : List AstNode) (d : Defs) :
    resolveOnce (st.withStatic b) nodes false last d = resolveOnce st nodes false last d :=
  resolveOnce_static (SameStatic.withStatic st b) false last (by simp only [Bool.and_false]) nodes d

theorem resolveIterativelyN_static {st st' : Static} (hs : SameStatic st st') (ho : st'.opts.optStatic = st.opts.optStatic)
    (nodes : List AstNode) (max : Nat) (d : Defs) :
    resolveIterativelyN st' nodes max d = resolveIterativelyN st nodes max d := by
  have hp : ∀ f l d, resolveOnce st' nodes f l d = resolveOnce st nodes f l d := fun f l d =>
    resolveOnce_static hs f l (by rw [ho]) nodes d
  have hl : ∀ fuel i d rep, iterLoop st' nodes max fuel i d rep = iterLoop st nodes max fuel i d rep := by
    intro fuel
    induction fuel with
    | zero => intro i d rep; simp only [iterLoop]
    | succ f ih => intro i d rep; simp only [iterLoop, hp, ih]
  unfold resolveIterativelyN
  simp only [hl, hp]

/-- the result of a step that froze its item, against that of the same step in a later pass: the same entry, marked;
    a frozen instruction or data element reports stable whatever the later step reports -/
inductive Froze (d : Defs) : AstNode → Nat → Defs × Bool × List String → Defs × Bool × List String → Prop
  | const {l nm x ne ref k} (v : Value) (b : Bool) (r : List String) (hr : (d.sym ref).resolved = false)
      (hk : (d.sym ref).known = true) :
      Froze d (.symbol l nm (.constant x) ne (some ref)) k
        (d.setSym ref { d.sym ref with value := v, resolved := true }, b, r)
        (d.setSym ref { d.sym ref with value := v, resolved := false }, b, r)
  | instr {src ref k} (e : BI) (b : Bool) (r r' : List String) (hr : (d.instrs.getD ref default).resolved = false)
      (hk : (d.instrs.getD ref default).known = true) :
      Froze d (.instr src (some ref)) k
        ({ d with instrs := d.instrs.set ref { d.instrs.getD ref default with encoding := e, resolved := true } }, true, r)
        ({ d with instrs := d.instrs.set ref { d.instrs.getD ref default with encoding := e } }, b, r')
  | data {sz es refs k} (e : BI) (b : Bool) (r r' : List String) (hr : (d.datas.getD (refs.getD k 0) default).resolved = false)
      (hk : (d.datas.getD (refs.getD k 0) default).known = true) :
      Froze d (.data sz es refs) k
        ({ d with datas := d.datas.set (refs.getD k 0) { d.datas.getD (refs.getD k 0) default with encoding := e, resolved := true } }, true, r)
        ({ d with datas := d.datas.set (refs.getD k 0) { d.datas.getD (refs.getD k 0) default with encoding := e } }, b, r')

theorem Froze.unfS {d : Defs} {n : AstNode} {k : Nat} {x y : Defs × Bool × List String} (h : Froze d n k x y)
    (H : Nat → Bool) (hH : ∀ r, H r = true → (d.sym r).resolved = true) : x.1.unfS H = y.1.unfS H := by
  cases h with
  | @const _ _ _ _ ref _ v b r hr hk =>
    have hh : H ref = false := by
      cases h : H ref with
      | false => rfl
      | true => rw [hH ref h] at hr; cases hr
    simp only [setSym_unfS, SymDef.keep, hh, Bool.and_false]
  | @instr _ ref _ e b r r' hr hk =>
    exact (unfS_setInstr H d ref { d.instrs.getD ref default with encoding := e, resolved := true }).symm.trans
      (unfS_setInstr H d ref { d.instrs.getD ref default with encoding := e })
  | @data _ _ refs _ e b r r' hr hk =>
    exact (unfS_setData H d _ { d.datas.getD (refs.getD k 0) default with encoding := e, resolved := true }).symm.trans
      (unfS_setData H d _ { d.datas.getD (refs.getD k 0) default with encoding := e })

def MarkRel (first : Bool) (d : Defs) (n : AstNode) (k : Nat) (on off : ItemRes) : Prop :=
  off = on ∨ first = true ∧ ∃ x y, on = .ok x ∧ off = .ok y ∧ Froze d n k x y

/-- The resolvers that can freeze their item have the form `commit (if skip then skipped else E.bind step)`.  Two of
    them that differ in `step` only (in `dispatch_mark`: the step with the mark and without) are related as soon as
    the committed steps are, for an item that is not skipped. -/
theorem commit_rel {α β} (L : Slot α) (d : Defs) {P : ItemRes → ItemRes → Prop} (hP : ∀ x, P x x)
    (skip : Bool) (E : Except String β) (f g : β → Verdict α)
    (h : skip = false → ∀ x, P (L.commit d (f x)) (L.commit d (g x))) :
    P (L.commit d (if skip then skipped else E.bind f)) (L.commit d (if skip then skipped else E.bind g)) := by
  cases skip with
  | true => exact hP _
  | false =>
    cases E with
    | error m => exact hP _
    | ok x => exact h rfl x

theorem dispatch_mark (st : Static) (d : Defs) (ctx : RCtx) (n : AstNode) (k : Nat) :
    MarkRel ctx.first d n k (dispatch st d ctx n k) (dispatch st d (ctx.setFirst false) n k) := by
  unfold dispatch
  split
  next level name kind ne ref =>
    cases kind with
    | label => exact .inl rfl
    | constant e =>
      simp only [resolveConstant_eq, resolverEval_first, setFirst_first, setFirst_last, Bool.and_false]
      refine commit_rel (symSlot ref) d (P := MarkRel ctx.first d _ k) (fun _ => .inl rfl) _ _ _ _ fun hr x => ?_
      rcases constantStep_mark (st.opts.optStatic && ctx.first) ctx.last (d.sym ref) x.1 with h | ⟨hm, hk, b, r, h1, h2⟩
      · exact .inl (by rw [h])
      · rw [h1, h2]
        exact .inr ⟨(Bool.and_eq_true_iff.mp hm).2, _, _, rfl, rfl, .const x.1 b r hr hk⟩
  next src ref =>
    simp only [resolveInstruction_eq, resolveEncoding_first, allDefinite_first, setFirst_first, setFirst_last, Bool.and_false]
    refine commit_rel (instrSlot ref) d (P := MarkRel ctx.first d _ k) (fun _ => .inl rfl) _ _ _ _ fun hr x => ?_
    rcases instrStep_mark (st.opts.optStatic && ctx.first) ctx.last (d.instrs.getD ref default) x.1 x.2
      (allDefinite st d ctx ((d.instrs.getD ref default).cands.map (·.m))) with h | ⟨hm, hk, e, b, r, h1, h2⟩
    · exact .inl (by rw [h])
    · rw [h1, h2]
      exact .inr ⟨(Bool.and_eq_true_iff.mp hm).2, _, _, rfl, rfl, .instr e b x.2 r hr hk⟩
  next sz es refs =>
    simp only [resolveData_eq, resolverEval_first, setFirst_first, setFirst_last, Bool.and_false]
    refine commit_rel (dataSlot (refs.getD k 0)) d (P := MarkRel ctx.first d _ k) (fun _ => .inl rfl) _ _ _ _ fun hr x => ?_
    rcases dataStep_mark (st.opts.optStatic && ctx.first) ctx.last sz (d.datas.getD (refs.getD k 0) default) x.1
      with h | ⟨hm, hk, e, b, r, h1, h2⟩
    · exact .inl (by rw [h])
    · rw [h1, h2]
      exact .inr ⟨(Bool.and_eq_true_iff.mp hm).2, _, _, rfl, rfl, .data e b [] r hr hk⟩
  · exact .inl (by rw [resolveRes_eq, resolveRes_eq, resolverEval_first]; rfl)
  · exact .inl (by rw [resolveAlign_eq, resolveAlign_eq, resolverEval_first]; rfl)
  · exact .inl (by rw [resolveAddr_eq, resolveAddr_eq, resolverEval_first]; rfl)
  · exact .inl (by rw [resolveAssert_eq, resolveAssert_eq, resolverEval_first]; rfl)
  · exact .inl rfl

theorem dispatch_off (H : Nat → Bool) (st : Static) (d : Defs) (ctx : RCtx) (n : AstNode) (k : Nat)
    (hm : markedS H d n k = false) :
    dispatch (st.withStatic false) (d.unfS H) ctx n k = (dispatch st d (ctx.setFirst false) n k).map (usRes H) := by
  rw [← dispatch_us H st d (ctx.setFirst false) n k hm rfl]
  exact dispatch_congr (.withStatic st false) (d.unfS H) (ctx.setFirst false) ctx.first n k (Bool.and_false _).symm

end Casm
