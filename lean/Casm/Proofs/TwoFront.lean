import Casm.Proofs.FrontInv
import Casm.Proofs.FrontFacts
import Casm.Proofs.UnfreezeS
/-!
# Casm.Proofs.TwoFront — the two front ends, side by side

`on` is the state of the front end with the static-value optimisation, `off` the state of the front
end started with `--debug-no-optimize-static`.  They differ in symbol marks only (`MRel`): the
unoptimised one marks a symbol exactly when it is defined on the command line or is a function.
Every front-end pass but `resolve_constants_simple` neither reads nor writes marks of constants;
that one marks more with the optimisation, and re-evaluates without it what the optimised run
skips — to the same value, because what is skipped is statically known.  The result is `frontRel_proved`.
-/
namespace Casm

-- The last three fields are about the marks; `EntryRel` states them of one entry and explains them.  `c2` stands first: by
-- it the marks of `off` are among those of `on`, and the other two are about the two kinds of mark `on` then has, `c1` about
-- those `off` lacks, `c3` about those `off` has as well.
structure MRel (opts : Opts) (d : Decls) (on off : Defs) : Prop where
  banks : off.banks = on.banks
  ruledefs : off.ruledefs = on.ruledefs
  fns : off.fns = on.fns
  instrs : off.instrs = on.instrs
  datas : off.datas = on.datas
  res : off.res = on.res
  aligns : off.aligns = on.aligns
  addrs : off.addrs = on.addrs
  len : off.symbols.length = on.symbols.length
  slot : ∀ r, (off.symbols.getD r none).isSome = (on.symbols.getD r none).isSome
  val : ∀ r, (off.sym r).value = (on.sym r).value
  kn : ∀ r, (off.sym r).known = (on.sym r).known
  ne : ∀ r, (off.sym r).noEmit = (on.sym r).noEmit
  c2 : ∀ r, (off.sym r).resolved = true → (on.sym r).resolved = true
  c1 : ∀ r, (on.sym r).resolved = true → (off.sym r).resolved = false →
    kindOf d r = .constant ∧ notDefined opts d r = true ∧ (on.sym r).known = true
  c3 : ∀ r, (off.sym r).resolved = true → ¬ (kindOf d r = .constant ∧ notDefined opts d r = true)

/-- the entries of symbol `r` in the two runs differ in the mark only, which the optimised run alone sets on a flagged
    constant that no define names (`c1`), and the unoptimised run never sets on a constant that no define names (`c3`) -/
structure EntryRel (opts : Opts) (d : Decls) (r : Nat) (sx sy : SymDef) : Prop where
  val : sy.value = sx.value
  kn : sy.known = sx.known
  ne : sy.noEmit = sx.noEmit
  c2 : sy.resolved = true → sx.resolved = true
  c1 : sx.resolved = true → sy.resolved = false → kindOf d r = .constant ∧ notDefined opts d r = true ∧ sx.known = true
  c3 : sy.resolved = true → ¬ (kindOf d r = .constant ∧ notDefined opts d r = true)

theorem EntryRel.eq {opts : Opts} {d : Decls} {r : Nat} {sx sy : SymDef} (h : EntryRel opts d r sx sy) :
    sy = { sx with resolved := sy.resolved } := by
  cases sx; cases sy; cases h.val; cases h.kn; cases h.ne; rfl

theorem MRel.entry {opts : Opts} {d : Decls} {on off : Defs} (m : MRel opts d on off) (r : Nat) :
    EntryRel opts d r (on.sym r) (off.sym r) :=
  ⟨m.val r, m.kn r, m.ne r, m.c2 r, m.c1 r, m.c3 r⟩

theorem MRel.of {opts : Opts} {d : Decls} {on off : Defs} {s : List (Option SymDef)} (hf : off = { on with symbols := s })
    (len : off.symbols.length = on.symbols.length) (slot : ∀ r, (off.symbols.getD r none).isSome = (on.symbols.getD r none).isSome)
    (ent : ∀ r, EntryRel opts d r (on.sym r) (off.sym r)) : MRel opts d on off := by
  subst hf
  exact ⟨rfl, rfl, rfl, rfl, rfl, rfl, rfl, rfl, len, slot, fun r => (ent r).val, fun r => (ent r).kn, fun r => (ent r).ne,
    fun r => (ent r).c2, fun r => (ent r).c1, fun r => (ent r).c3⟩

theorem MRel.refl_empty (opts : Opts) (d : Decls) : MRel opts d {} {} :=
  .of rfl rfl (fun _ => rfl) fun _ => ⟨rfl, rfl, rfl, id, fun h => (by cases h), fun h => (by cases h)⟩

/-- the value of a slot, as `eval_certain` reads it -/
theorem slot_value (defs : Defs) (r : Nat) :
    (defs.symbols.getD r none).map (·.value) = if (defs.symbols.getD r none).isSome then some (defs.sym r).value else none := by
  unfold Defs.sym
  cases defs.symbols.getD r none <;> rfl

theorem MRel.slotval {opts : Opts} {d : Decls} {on off : Defs} (m : MRel opts d on off) (r : Nat) :
    (off.symbols.getD r none).map (·.value) = (on.symbols.getD r none).map (·.value) := by
  rw [slot_value, slot_value, m.slot r, m.val r]

theorem simpleEnv_rel {opts : Opts} {d : Decls} {on off : Defs} (m : MRel opts d on off) : simpleEnv d off = simpleEnv d on := by
  have key : slotVal off = slotVal on := funext fun r => by rw [slotVal_eq, slotVal_eq, m.val r]
  unfold simpleEnv
  rw [key]

theorem evalSimple_rel {opts : Opts} {d : Decls} {on off : Defs} (m : MRel opts d on off) (e : Expr) :
    evalSimple d off e = evalSimple d on e := by
  rw [evalSimple_eq, evalSimple_eq, simpleEnv_rel m]

theorem resolveIfs_rel {opts : Opts} {d : Decls} {on off : Defs} (m : MRel opts d on off) (nodes : List AstNode) :
    resolveIfs d off nodes = resolveIfs d on nodes := by
  unfold resolveIfs
  simp only [evalSimple_rel m]

theorem MRel.ext {opts : Opts} {d d' : Decls} {on off : Defs} (m : MRel opts d on off) (h : DeclExt d.symbols d'.symbols)
    (s0 : ∀ r, (on.symbols.getD r none).isSome = true → r < d.symbols.decls.length) : MRel opts d' on off := by
  have stable : ∀ r, (on.sym r).resolved = true → kindOf d' r = kindOf d r ∧ notDefined opts d' r = notDefined opts d r := by
    intro r hr
    have hlt := s0 r (by
      cases hx : (on.symbols.getD r none).isSome with
      | true => rfl
      | false => rw [sym_of_noslot on r hx] at hr; cases hr)
    exact ⟨h.kind hlt, notDefined_ext opts h hlt⟩
  refine { m with c1 := fun r h1 h2 => ?_, c3 := fun r h => ?_ }
  · rw [(stable r h1).1, (stable r h1).2]; exact m.c1 r h1 h2
  · rw [(stable r (m.c2 r h)).1, (stable r (m.c2 r h)).2]; exact m.c3 r h

theorem MRel.eq_frame {opts : Opts} {d : Decls} {on off : Defs} (m : MRel opts d on off) : off = { on with symbols := off.symbols } := by
  cases on
  cases off
  simp only [Defs.mk.injEq, true_and]
  exact ⟨m.banks, m.ruledefs, m.fns, m.instrs, m.datas, m.res, m.aligns, m.addrs⟩

theorem MRel.map {opts : Opts} {d : Decls} {on off : Defs} (m : MRel opts d on off) (f : Defs → Defs)
    (hf : ∀ x s, f { x with symbols := s } = { f x with symbols := s }) : MRel opts d (f on) (f off) := by
  have hs : (f on).symbols = on.symbols := (congrArg Defs.symbols (hf on on.symbols) :)
  have key : f off = { f on with symbols := off.symbols } := (congrArg f m.eq_frame).trans (hf on off.symbols)
  have hs' : (f off).symbols = off.symbols := by rw [key]
  refine .of key (by rw [hs', hs]; exact m.len) (fun r => by rw [hs', hs]; exact m.slot r) fun r => ?_
  rw [sym_of_symbols_eq hs, sym_of_symbols_eq hs']
  exact m.entry r

theorem MRel.set {opts : Opts} {d : Decls} {on off : Defs} (m : MRel opts d on off) (r : Nat) (sx sy : SymDef)
    {S T : List (Option SymDef)} (len : T.length = S.length)
    (hx : SlotSet on { on with symbols := S } r sx) (hy : SlotSet off { off with symbols := T } r sy) (he : EntryRel opts d r sx sy) :
    MRel opts d { on with symbols := S } { off with symbols := T } := by
  refine .of (s := T) (by rw [m.eq_frame]) len (fun r' => ?_) fun r' => ?_
  · rw [hx, hy]
    by_cases h : r' = r
    · rw [if_pos h, if_pos h]; rfl
    · rw [if_neg h, if_neg h]; exact m.slot r'
  · rw [hx.sym, hy.sym]
    by_cases h : r' = r
    · rw [if_pos h, if_pos h, h]; exact he
    · rw [if_neg h, if_neg h]; exact m.entry r'

theorem MRel.padset {opts : Opts} {d : Decls} {on off : Defs} (m : MRel opts d on off) (r : Nat) (sd : SymDef)
    (hsd : sd.resolved = true → kindOf d r ≠ .constant) :
    MRel opts d { on with symbols := (padTo on.symbols r none).set r (some sd) }
      { off with symbols := (padTo off.symbols r none).set r (some sd) } :=
  m.set r sd sd (by simp only [padset_length, m.len]) (slot_padset _ r · sd) (slot_padset _ r · sd)
    ⟨rfl, rfl, rfl, id, fun h h' => (by rw [h] at h'; cases h'), fun h hc => hsd h hc.1⟩

theorem MRel.write {opts : Opts} {d : Decls} {on off : Defs} (m : MRel opts d on off) (r : Nat)
    (hslot : (on.symbols.getD r none).isSome = true) (sx sy : SymDef) (he : EntryRel opts d r sx sy) :
    MRel opts d (on.setSym r sx) (off.setSym r sy) :=
  m.set r sx sy (by simp only [List.length_set]; exact m.len) (slot_setSym_eq on r sx hslot)
    (slot_setSym_eq off r sy (by rw [m.slot r]; exact hslot)) he

theorem MRel.define {opts : Opts} {d : Decls} : ∀ (l : List AstNode) (on off : Defs), MRel opts d on off →
    MRel opts d (defineSymbols on l) (defineSymbols off l) := by
  intro l on off m
  rw [defineSymbols_eq, defineSymbols_eq]
  refine List.foldl_rel (r := fun x y => MRel opts d x y) m fun n _ x y m => ?_
  unfold defineStep
  split
  · rw [m.slot]
    split
    · exact m
    · exact m.padset _ _ (fun h => nomatch h)
  · exact m

def AccRel (opts : Opts) (d : Decls) (nodes : List AstNode) (a b : Except String (Defs × Nat)) : Prop :=
  match a with
  | .error e => b = .error e
  | .ok (x, k) => ∃ y, b = .ok (y, k) ∧ MRel opts d x y ∧ FInv opts d x nodes ∧ SlotsOK x nodes

theorem AccRel.cases {opts : Opts} {d : Decls} {nodes : List AstNode} {a b : Except String (Defs × Nat)} (h : AccRel opts d nodes a b) :
    (∃ e, a = .error e ∧ b = .error e) ∨
    ∃ x y k, a = .ok (x, k) ∧ b = .ok (y, k) ∧ MRel opts d x y ∧ FInv opts d x nodes ∧ SlotsOK x nodes := by
  cases a with
  | error e => exact .inl ⟨e, rfl, h⟩
  | ok xk => obtain ⟨y, hb, r⟩ := h; exact .inr ⟨_, y, _, rfl, hb, r⟩

theorem staticOff_defines (opts : Opts) : opts.staticOff.defines = opts.defines := rfl
theorem staticOff_optStatic (opts : Opts) : opts.staticOff.optStatic = false := rfl
theorem staticOff_optMatcher (opts : Opts) : opts.staticOff.optMatcher = opts.optMatcher := rfl

theorem writeOf_off (opts : Opts) (s : SymDef) (v : Value) : writeOf opts.staticOff s v = { s with value := v } := by
  simp [writeOf_eq, staticOff_optStatic]

theorem constStep_rel (opts : Opts) (ho : opts.optStatic = true) (d : Decls) (nodes : List AstNode) (n : AstNode) (hn : n ∈ nodes)
    (a b : Except String (Defs × Nat)) (h : AccRel opts d nodes a b) :
    AccRel opts d nodes (constStep opts d a n) (constStep opts.staticOff d b n) := by
  cases a with
  | error e => cases h; exact rfl
  | ok xa =>
    obtain ⟨x, k⟩ := xa
    obtain ⟨y, rfl, m, fx, sx⟩ := h
    by_cases hc : ∃ lv nm e ne r, n = .symbol lv nm (.constant e) ne (some r)
    case neg =>
      have hc' : ∀ lv nm e ne r, n ≠ .symbol lv nm (.constant e) ne (some r) := fun lv nm e ne r he => hc ⟨lv, nm, e, ne, r, he⟩
      rw [constStep_other _ _ _ hc', constStep_other _ _ _ hc']
      exact ⟨y, rfl, m, fx, sx⟩
    case pos =>
      obtain ⟨lv, nm, e, ne, r, rfl⟩ := hc
      have hslot := sx _ hn r rfl
      have hni : NI opts d x _ := fx.ni _ hn
      rw [constStep_const, constStep_const, staticOff_defines, evalSimple_rel m e]
      simp only [writeOf_off]
      have skip : AccRel opts d nodes (.ok (x, k + 1)) (.ok (y, k + 1)) := ⟨y, rfl, m, fx, sx⟩
      rcases Bool.eq_false_or_eq_true (x.sym r).resolved with hrx | hrx
      · rw [if_pos hrx]
        rcases Bool.eq_false_or_eq_true (y.sym r).resolved with hry | hry
        · rw [if_pos hry]; exact skip
        · -- the unoptimised run re-evaluates a constant the optimised one has marked: to the value it holds
          obtain ⟨_, hnd, hkn⟩ := m.c1 r hrx hry
          obtain ⟨hvu, hpv⟩ := hni.2 hrx hkn hnd
          rw [if_neg (Bool.eq_false_iff.mp hry), notDefined_iff.1 hnd, hpv d x, ← m.val r]
          simp only [if_neg ((m.val r).symm ▸ hvu)]
          rw [show ({ y.sym r with value := (y.sym r).value } : SymDef) = y.sym r from rfl,
            setSym_self y r (.inr (Option.isSome_iff_exists.mp (by rw [m.slot r]; exact hslot)))]
          exact skip
      · have hry : (y.sym r).resolved = false := Bool.eq_false_iff.mpr fun h => by rw [m.c2 r h] at hrx; cases hrx
        rw [if_neg (Bool.eq_false_iff.mp hrx), if_neg (Bool.eq_false_iff.mp hry)]
        cases hfind : opts.defines.find? (·.1 == (d.symbols.decls.getD r default).name) with
        | some dv =>
          obtain ⟨f', s'⟩ := fx.step_def sx hn hfind
          refine ⟨_, rfl, m.write r hslot _ _ ⟨rfl, m.kn r, m.ne r, fun _ => rfl, fun _ h => (nomatch h), fun _ hh => ?_⟩, f', s'⟩
          exact nomatch hh.2.symm.trans (notDefined_of_some hfind)
        | none =>
          cases hev : evalSimple d x e with
          | error msg => exact rfl
          | ok v =>
            obtain ⟨f', s'⟩ := fx.step_ev sx hn hrx hev
            refine ⟨_, rfl, m.write r hslot _ _ ⟨(writeOf_value ..).symm, (m.kn r).trans (writeOf_known ..).symm,
              (m.ne r).trans (writeOf_noEmit ..).symm, fun h => ?_, fun h _ => ?_, fun h => ?_⟩, f', s'⟩
            · exact absurd (hry ▸ h : false = true) Bool.false_ne_true
            · -- marked by the optimised run only: a constant that no define names, flagged
              simp only [writeOf_eq, hrx, Bool.false_or, Bool.and_eq_true] at h
              exact ⟨(fx.kinv _ hn).2, notDefined_iff.2 hfind, (writeOf_known ..).trans h.1.2⟩
            · exact absurd (hry ▸ h : false = true) Bool.false_ne_true

theorem consts_rel (opts : Opts) (ho : opts.optStatic = true) (d : Decls) {nodes : List AstNode} {a b : Except String (Defs × Nat)}
    (h : AccRel opts d nodes a b) :
    AccRel opts d nodes (nodes.foldl (constStep opts d) a) (nodes.foldl (constStep opts.staticOff d) b) :=
  List.foldl_rel (r := AccRel opts d nodes) h fun n hn a b h => constStep_rel opts ho d nodes n hn a b h

theorem evalCertain_rel {opts : Opts} {d : Decls} {on off : Defs} (m : MRel opts d on off) (e : Expr) :
    evalCertain d off e = evalCertain d on e := by
  unfold evalCertain
  simp only [m.slotval]

theorem checkLeftoverIfs_rel {opts : Opts} {d : Decls} {on off : Defs} (m : MRel opts d on off) (nodes : List AstNode) :
    checkLeftoverIfs d off nodes = checkLeftoverIfs d on nodes := by
  unfold checkLeftoverIfs
  simp only [evalCertain_rel m]

theorem defineBank_rel {opts : Opts} {d : Decls} {on off : Defs} (m : MRel opts d on off) (b : BankdefAst) :
    defineBank d off b = defineBank d on b := by
  unfold defineBank
  rw [show evalCertain d off = evalCertain d on from funext (evalCertain_rel m)]

theorem declLoop_rel (opts : Opts) (ho : opts.optStatic = true) :
    ∀ (fuel : Nat) (d : Decls) (on off : Defs) (nodes : List AstNode) (prev : Nat), MRel opts d on off → FInv opts d on nodes →
      ExRel (fun x y => ∃ off, y = (x.1, off, x.2.2) ∧ MRel opts x.1 x.2.1 off)
        (declLoop opts fuel d on nodes prev) (declLoop opts.staticOff fuel d off nodes prev) := by
  intro fuel
  induction fuel with
  | zero => intro d on off nodes prev _ _; exact rfl
  | succ f ih =>
    intro d on off nodes prev m fi
    simp only [declLoop]
    cases hc : collectAll d nodes with
    | error e => exact rfl
    | ok x =>
      obtain ⟨d1, n1⟩ := x
      obtain ⟨f2, s2⟩ := (fi.collect hc).defineAll
      have acc := consts_rel opts ho d1 (a := .ok (defineSymbols on n1, 0)) (b := .ok (defineSymbols off n1, 0))
        ⟨_, rfl, MRel.define n1 on off (m.ext (collectAll_steps hc).ext fi.s0), f2, s2⟩
      rw [← resolveConstantsSimple_eq, ← resolveConstantsSimple_eq] at acc
      rcases acc.cases with ⟨e, hr, hr'⟩ | ⟨x2, y2, cnt, hr, hr', m3, _⟩ <;> simp only [hr, hr']
      · exact rfl
      rw [resolveIfs_rel m3]
      cases hri : resolveIfs d1 x2 n1 with
      | error e => exact rfl
      | ok z =>
        obtain ⟨nodes2, ifs⟩ := z
        simp only
        split
        · exact ⟨_, rfl, _, rfl, m3⟩
        · exact ih d1 x2 y2 nodes2 cnt m3 (FInv.round ⟨hc, hr, hri⟩ fi).1

theorem assignRef_rel {opts : Opts} {d : Decls} (l : List AstNode) {on off : Defs} {out : List AstNode} (m : MRel opts d on off) :
    (l.foldl assignRef (off, out)).2 = (l.foldl assignRef (on, out)).2 ∧
      MRel opts d (l.foldl assignRef (on, out)).1 (l.foldl assignRef (off, out)).1 := by
  refine List.foldl_rel (r := fun (a b : Defs × List AstNode) => b.2 = a.2 ∧ MRel opts d a.1 b.1) ⟨rfl, m⟩ fun n _ a b h => ?_
  obtain ⟨x, o⟩ := a
  obtain ⟨y, o'⟩ := b
  obtain ⟨h2, m⟩ := h
  dsimp only at h2 m
  subst h2
  exact ⟨by rw [m.eq_frame, assignRef_with_symbols],
    m.map (fun z => (assignRef (z, o') n).1) fun z s => congrArg Prod.fst (assignRef_with_symbols z s o' n)⟩

theorem fnFold_rel (opts : Opts) (d : Decls) (bon boff : Defs) (nodes : List AstNode) (hk : KInv d.symbols nodes)
    (m : MRel opts d { bon with symbols := bon.symbols } { boff with symbols := boff.symbols }) :
    (nodes.foldl fnStep ([], boff.symbols)).1 = (nodes.foldl fnStep ([], bon.symbols)).1 ∧
      MRel opts d { bon with symbols := (nodes.foldl fnStep ([], bon.symbols)).2 } { boff with symbols := (nodes.foldl fnStep ([], boff.symbols)).2 } := by
  refine List.foldl_rel (r := fun (a b : List FnDef × List (Option SymDef)) => b.1 = a.1 ∧
    MRel opts d { bon with symbols := a.2 } { boff with symbols := b.2 }) ⟨rfl, m⟩ fun n hn a b h => ?_
  obtain ⟨h1, m⟩ := h
  unfold fnStep
  split
  next r =>
    refine ⟨by rw [h1], ?_⟩
    rw [h1]
    exact MRel.padset (on := { bon with symbols := a.2 }) (off := { boff with symbols := b.2 }) m r _
      (fun _ hc => by rw [kindOf, (hk _ hn).2] at hc; cases hc)
  next => exact ⟨h1, m⟩

theorem defineRemaining_rel {opts : Opts} {d : Decls} {on off : Defs} (m : MRel opts d on off) (nodes : List AstNode)
    (hk : KInv d.symbols nodes) :
    (∀ e, defineRemaining d on nodes = .error e → defineRemaining d off nodes = .error e) ∧
    (∀ on' nodes', defineRemaining d on nodes = .ok (on', nodes') →
      ∃ off', defineRemaining d off nodes = .ok (off', nodes') ∧ MRel opts d on' off') := by
  -- both runs compute the same banks and rule definitions, or fail in the same way
  unfold defineRemaining
  simp only [bind, Except.bind, defineBank_rel m]
  split
  next => exact ⟨fun _ h => h, fun _ _ h => nomatch h⟩
  next banks _ =>
    split
    next => exact ⟨fun _ h => h, fun _ _ h => nomatch h⟩
    next rds _ =>
      refine ⟨fun _ h => (nomatch h), fun on' nodes' h => ?_⟩
      obtain ⟨f1, f2⟩ := fnFold_rel opts d on off nodes hk m
      have m2 : MRel opts d { on with banks := banks, ruledefs := rds, fns := (nodes.foldl fnStep ([], on.symbols)).1, symbols := (nodes.foldl fnStep ([], on.symbols)).2 }
          { off with banks := banks, ruledefs := rds, fns := (nodes.foldl fnStep ([], off.symbols)).1, symbols := (nodes.foldl fnStep ([], off.symbols)).2 } := by
        rw [f1]
        exact f2.map (fun z => { z with banks := banks, ruledefs := rds, fns := (nodes.foldl fnStep ([], on.symbols)).1 }) fun _ _ => rfl
      obtain ⟨a1, a2⟩ := assignRef_rel nodes (out := []) m2
      cases h
      exact ⟨_, congrArg Except.ok (Prod.ext rfl a1), a2⟩

theorem matchAll_rel {opts : Opts} {d : Decls} {on off : Defs} (m : MRel opts d on off) (nodes : List AstNode) :
    (matchAll opts.staticOff d off nodes).2 = (matchAll opts d on nodes).2 ∧
      MRel opts d (matchAll opts d on nodes).1 (matchAll opts.staticOff d off nodes).1 := by
  rw [matchAll_eq, matchAll_eq]
  suffices key : (nodes.foldl (matchStep opts.staticOff d) (off, [], [])).2 = (nodes.foldl (matchStep opts d) (on, [], [])).2 ∧
      MRel opts d (nodes.foldl (matchStep opts d) (on, [], [])).1 (nodes.foldl (matchStep opts.staticOff d) (off, [], [])).1 from
    ⟨by simp only [key.1], key.2⟩
  refine List.foldl_rel (r := fun (a b : Defs × List String × List String) => b.2 = a.2 ∧ MRel opts d a.1 b.1) ⟨rfl, m⟩
    fun n _ a b h => ?_
  obtain ⟨x, sc, rp⟩ := a
  obtain ⟨y, sc', rp'⟩ := b
  obtain ⟨h2, m⟩ := h
  cases h2
  have m : MRel opts d x y := m
  simp only [matchStep, staticOff_optMatcher, m.ruledefs, (matchKnown_congr d x y m.ruledefs m.kn sc 64).1,
    (matchStaticSize_congr x y m.ruledefs 64).1]
  split
  · split
    · exact ⟨rfl, m⟩
    · -- both runs store the same entry (`simp` has written the rule definitions of `y` as those of `x`)
      rw [m.instrs]
      exact ⟨rfl, m.map (fun z => { z with ruledefs := x.ruledefs, instrs := x.instrs.set _ _ }) fun _ _ => rfl⟩
  · exact ⟨rfl, m⟩
  · exact ⟨rfl, m⟩

theorem frontEndPre_rel (opts : Opts) (ho : opts.optStatic = true) (fs : SrcFiles) (roots : List (List Char)) :
    ExRel (fun x y => ∃ off, y = (x.1, off, x.2.2) ∧ MRel opts x.1 x.2.1 off)
      (frontEndPre opts fs roots) (frontEndPre opts.staticOff fs roots) := by
  unfold frontEndPre
  cases parseMany fs roots with
  | error e => exact rfl
  | ok parsed =>
    simp only [Except.map]
    cases (SymMgr.new "bank").declare [] "#global_bankdef" 0 .other with
    | error e => exact rfl
    | ok x =>
      obtain ⟨r0, bm⟩ := x
      simp only
      generalize 4 * ((parsed.map AstNode.fresh).length + 4) + 64 + 8 * (fs.foldl (fun n f => n + f.2.length) 0) = fuel
      rcases (declLoop_rel opts ho fuel { banks := bm } {} {} (parsed.map AstNode.fresh) 0 (MRel.refl_empty opts _)
          (FInv.init opts _ parsed).1).cases with ⟨e, hd, hd'⟩ | ⟨⟨d2, on2, nodes2⟩, _, hd, hd', off2, rfl, m2⟩ <;>
        simp only [hd, hd']
      · exact rfl
      rw [checkLeftoverIfs_rel m2]
      cases checkLeftoverIfs d2 on2 nodes2 with
      | error e => exact rfl
      | ok u =>
        simp only
        obtain ⟨r1, r2⟩ := defineRemaining_rel m2 nodes2 (declLoop_kinv opts (KInv.init _ parsed) hd)
        cases hdr : defineRemaining d2 on2 nodes2 with
        | error e => rw [r1 e hdr]; exact rfl
        | ok z =>
          obtain ⟨off3, e3, m3⟩ := r2 z.1 z.2 hdr
          rw [e3]
          exact ⟨_, rfl, _, rfl, m3⟩

theorem frontEnd_rel (opts : Opts) (ho : opts.optStatic = true) (fs : SrcFiles) (roots : List (List Char)) :
    ExRel (fun x y => ∃ off, y = (x.1.withStatic false, x.2.1, off) ∧ MRel opts x.1.decls x.2.2 off)
      (frontEnd opts fs roots) (frontEnd opts.staticOff fs roots) := by
  unfold frontEnd
  rcases (frontEndPre_rel opts ho fs roots).cases with ⟨e, hp, hp'⟩ | ⟨⟨d, on, nodes⟩, _, hp, hp', off, rfl, m⟩ <;>
    simp only [hp, hp']
  · exact rfl
  obtain ⟨h1, h2⟩ := matchAll_rel m nodes
  rw [h1]
  split
  · exact rfl
  · exact ⟨_, rfl, _, rfl, h2⟩

theorem slot_ext {a b : Option SymDef} (h1 : a.isSome = b.isSome) (h2 : a.getD {} = b.getD {}) : a = b := by
  cases a with
  | none => cases b with
    | none => rfl
    | some _ => cases h1
  | some _ => cases b with
    | none => cases h1
    | some _ => exact congrArg some h2

theorem mrel_unfS (st : Static) (on off : Defs) (m : MRel st.opts st.decls on off)
    (hfi : ∀ ref, (on.instrs.getD ref default).resolved = false) (hfd : ∀ ref, (on.datas.getD ref default).resolved = false) :
    off = on.unfS (markedByBoth st on) := by
  have hmark : ∀ r, (off.sym r).resolved = ((on.sym r).resolved && markedByBoth st on r) := by
    intro r
    cases hon : (on.sym r).resolved with
    | false => exact Bool.eq_false_iff.2 fun h => by rw [m.c2 r h] at hon; cases hon
    | true =>
      show _ = markedByBoth st on r
      cases hoff : (off.sym r).resolved with
      | true => exact (Bool.of_not_eq_false fun h => m.c3 r hoff ((markedByBoth_eq_false hon).1 h).2).symm
      | false =>
        obtain ⟨h1, h2, h3⟩ := m.c1 r hon hoff
        exact ((markedByBoth_eq_false hon).2 ⟨h3, h1, h2⟩).symm
  have hsym : ∀ r, off.sym r = (on.unfS (markedByBoth st on)).sym r := fun r => by
    rw [sym_unfS, (m.entry r).eq, hmark r]; rfl
  have hsyms : off.symbols = (on.unfS (markedByBoth st on)).symbols :=
    ext_getD none (by rw [unfS_length]; exact m.len) fun r =>
      slot_ext (by rw [m.slot r, unfS_symbols_getD, Option.isSome_map]) (hsym r)
  -- nothing else is marked, so that clearing the marks of instructions and data elements changes nothing
  have instr_same : ∀ x : InstrDef, x.resolved = false → { x with resolved := false } = x := fun x h => by cases x; cases h; rfl
  have data_same : ∀ x : DataDef, x.resolved = false → { x with resolved := false } = x := fun x h => by cases x; cases h; rfl
  have hu : on.unfreeze = on := by
    unfold Defs.unfreeze
    rw [map_eq_self_of_getD _ _ default fun i => instr_same _ (hfi i), map_eq_self_of_getD _ _ default fun i => data_same _ (hfd i)]
  rw [m.eq_frame, hsyms]
  unfold Defs.unfS
  rw [hu]

theorem frontRel_proved (opts : Opts) (ho : opts.optStatic = true) (fs : SrcFiles) (roots : List (List Char)) :
    FrontRel opts fs roots :=
  (frontEnd_rel opts ho fs roots).eq_map fun ⟨st, nodes, on⟩ _ hf ⟨off, e, m⟩ => by
    cases e
    have f := frontEnd_frontOK opts ho fs roots st nodes on hf
    rw [mrel_unfS st on off (by rw [(frontEnd_opts opts fs roots st nodes on hf).1]; exact m) f.instrsFresh f.datasFresh]

end Casm
