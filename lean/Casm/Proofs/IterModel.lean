import Casm.Model.Assemble
import Casm.Proofs.Iterate
/-!
# Casm.Proofs.IterModel — the model's loop is the generic one

`iterLoop`/`resolveIterativelyN` are `Iter.loop`/`Iter.iterate` over `logPass`: `resolveOnce` on a
state paired with the messages reported so far; only the text of a fatal error is forgotten
(`iterLoop_log`, `resolveIterativelyN_log`).  `absPass` forgets the messages too
(`resolveIterativelyN_abs`).  `resolveIterativelyN_ok_inv` is `Iter.iterate_ok_inv` in the model's
terms: a fact about the iteration as a whole is this lemma with an invariant of the earlier passes.
-/
namespace Casm

def logPass (st : Static) (nodes : List AstNode) : Iter.Pass (Defs × List String) := fun fl s =>
  match resolveOnce st nodes fl.first fl.last s.1 with
  | .error _ => .err
  | .ok (d', stable, r) => .ok ((d', s.2 ++ r), stable)

def absPass (st : Static) (nodes : List AstNode) : Iter.Pass Defs := fun fl d =>
  match resolveOnce st nodes fl.first fl.last d with
  | .error _ => .err
  | .ok (d', stable, _) => .ok (d', stable)

theorem logPass_ok {st : Static} {nodes : List AstNode} {f l : Bool} {d d' : Defs} {rep rep' : List String} {b : Bool} :
    logPass st nodes ⟨f, l⟩ (d, rep) = .ok ((d', rep'), b) ↔
      ∃ r, resolveOnce st nodes f l d = .ok (d', b, r) ∧ rep' = rep ++ r := by
  simp only [logPass]
  cases resolveOnce st nodes f l d with
  | error e => simp
  | ok x =>
    obtain ⟨d1, s, r⟩ := x
    constructor
    · intro h; cases h; exact ⟨r, rfl, rfl⟩
    · rintro ⟨r', h, rfl⟩; cases h; rfl

theorem absPass_ok {st : Static} {nodes : List AstNode} {f l : Bool} {d d' : Defs} {b : Bool} :
    absPass st nodes ⟨f, l⟩ d = .ok (d', b) ↔ ∃ r, resolveOnce st nodes f l d = .ok (d', b, r) := by
  simp only [absPass]
  cases resolveOnce st nodes f l d with
  | error e => simp
  | ok x =>
    obtain ⟨d1, s, r⟩ := x
    constructor
    · intro h; cases h; exact ⟨r, rfl⟩
    · rintro ⟨r', h⟩; cases h; rfl

theorem absPass_log (st : Static) (nodes : List AstNode) (fl : Iter.Flags) (s : Defs × List String) :
    absPass st nodes fl s.1 = (logPass st nodes fl s).map fun x => (x.1.1, x.2) := by
  simp only [absPass, logPass]
  cases resolveOnce st nodes fl.first fl.last s.1 with
  | error e => rfl
  | ok x => rfl

def logLoop : Except (List String) (Nat × Defs × List String × Bool) → Iter.Out (Sum (Nat × Defs × List String) (Nat × Defs × List String))
  | .error _ => .err
  | .ok (k, d, rep, true) => .ok (.inl (k, d, rep))
  | .ok (k, d, rep, false) => .ok (.inr (k, d, rep))

def logIter : Except (List String) (Nat × Defs × List String) → Iter.Out (Nat × Defs × List String)
  | .error _ => .err
  | .ok x => .ok x

theorem iterLoop_log (st : Static) (nodes : List AstNode) (max : Nat) :
    ∀ fuel i d rep, i + fuel = max →
      logLoop (iterLoop st nodes max fuel i d rep) = Iter.loop (logPass st nodes) max fuel i (d, rep) := by
  intro fuel
  induction fuel with
  | zero => intro i d rep _; rfl
  | succ n ih =>
    intro i d rep hi
    have hlt : ¬ (i ≥ max) := by omega
    simp only [iterLoop, hlt, if_false, Iter.loop, logPass]
    cases resolveOnce st nodes (i + 1 == 1) (i + 1 == max) d with
    | error e => rfl
    | ok x =>
      obtain ⟨d1, stable, r⟩ := x
      -- only an unstable pass that is not the last goes round again
      cases stable with
      | true => cases (i + 1 == max) <;> rfl
      | false =>
        cases (i + 1 == max) with
        | true => rfl
        | false => exact ih _ _ _ (by omega)

theorem resolveIterativelyN_log (st : Static) (nodes : List AstNode) (max : Nat) (d : Defs) :
    logIter (resolveIterativelyN st nodes max d) = Iter.iterate (logPass st nodes) max (d, []) := by
  unfold resolveIterativelyN Iter.iterate
  rw [← iterLoop_log st nodes max max 0 d [] (by omega)]
  cases iterLoop st nodes max max 0 d [] with
  | error e => rfl
  | ok x =>
    obtain ⟨i, d1, rep1, fin⟩ := x
    cases fin with
    | true => rfl
    | false =>
      simp only [logLoop, logPass]
      cases resolveOnce st nodes false true d1 with
      | error e => rfl
      | ok y => obtain ⟨d2, stable, r⟩ := y; cases stable <;> rfl

theorem resolveIterativelyN_abs {st : Static} {nodes : List AstNode} {max : Nat} {d : Defs} {k : Nat} {d' : Defs} :
    Iter.iterate (absPass st nodes) max d = .ok (k, d') ↔ ∃ rep, resolveIterativelyN st nodes max d = .ok (k, d', rep) := by
  have := Iter.iterate_map (fun s : Defs × List String => s.1) (logPass st nodes) (absPass st nodes) max
    (absPass_log st nodes) (d, [])
  rw [this, ← resolveIterativelyN_log]
  cases resolveIterativelyN st nodes max d with
  | error e => simp [logIter, Iter.Out.map]
  | ok x =>
    obtain ⟨k1, d1, rep⟩ := x
    constructor
    · intro h; cases h; exact ⟨rep, rfl⟩
    · rintro ⟨rep', h⟩; cases h; rfl

theorem resolveIterativelyN_sim (st : Static) (nodes : List AstNode) (max : Nat) (d : Defs) (k : Nat) (d' : Defs) (rep : List String)
    (h : resolveIterativelyN st nodes max d = .ok (k, d', rep)) :
    Iter.iterate (absPass st nodes) max d = .ok (k, d') :=
  resolveIterativelyN_abs.mpr ⟨rep, h⟩

/-- `I i d rep`: `i` passes done, state `d`, messages `rep` so far; `f` as in `Iter.iterate_ok_inv` -/
theorem resolveIterativelyN_ok_inv {st : Static} {nodes : List AstNode} {max : Nat} {d0 : Defs} {k : Nat} {d' : Defs} {rep : List String}
    {I : Nat → Defs → List String → Prop} (h0 : I 0 d0 [])
    (step : ∀ i d rp d1 b r, i + 1 < max → I i d rp → resolveOnce st nodes (i + 1 == 1) false d = .ok (d1, b, r) →
      I (i + 1) d1 (rp ++ r))
    (h : resolveIterativelyN st nodes max d0 = .ok (k, d', rep)) :
    ∃ i d rp f r, I i d rp ∧ resolveOnce st nodes f true d = .ok (d', true, r) ∧ rep = rp ++ r ∧
      (f = true → i = 0 ∧ max = 1) ∧ (f = false → 1 ≤ i ∨ max = 0) := by
  have h' : Iter.iterate (logPass st nodes) max (d0, []) = .ok (k, (d', rep)) := by
    rw [← resolveIterativelyN_log, h]; rfl
  obtain ⟨_, i, ⟨d, rp⟩, f, hI, hp, hf⟩ := Iter.iterate_ok_inv (I := fun i s => I i s.1 s.2) (logPass st nodes) max h0
    (fun i s s' b hlt hI hp => by
      obtain ⟨r, hr, hrep⟩ := logPass_ok.mp (show logPass st nodes ⟨_, _⟩ (s.1, s.2) = .ok ((s'.1, s'.2), b) from hp)
      rw [hrep]; exact step i s.1 s.2 s'.1 b r hlt hI hr) h'
  obtain ⟨r, hr, hrep⟩ := logPass_ok.mp hp
  exact ⟨i, d, rp, f, r, hI, hr, hrep, hf⟩

theorem iterLoop_rep (st : Static) (nodes : List AstNode) (max : Nat) :
    ∀ fuel i d rep k d' rep' fin, iterLoop st nodes max fuel i d rep = .ok (k, d', rep', fin) →
      ∃ t, rep' = rep ++ t := by
  intro fuel
  induction fuel with
  | zero => intro i d rep k d' rep' fin h; cases h; exact ⟨[], (List.append_nil _).symm⟩
  | succ n ih =>
    intro i d rep k d' rep' fin h
    simp only [iterLoop] at h
    split at h
    · cases h; exact ⟨[], (List.append_nil _).symm⟩
    · cases hp : resolveOnce st nodes (i + 1 == 1) (i + 1 == max) d with
      | error e => rw [hp] at h; cases h
      | ok x =>
        obtain ⟨d1, stable, r⟩ := x
        rw [hp] at h
        cases stable with
        | true => cases hl : (i + 1 == max) <;> (rw [hl] at h; cases h; exact ⟨r, rfl⟩)
        | false =>
          cases hl : (i + 1 == max) with
          | true => rw [hl] at h; cases h
          | false =>
            rw [hl] at h
            obtain ⟨t, ht⟩ := ih _ _ _ _ _ _ _ h
            exact ⟨r ++ t, by rw [ht, List.append_assoc]⟩

end Casm
