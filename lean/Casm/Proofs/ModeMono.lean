import Casm.Proofs.PassFold
import Casm.Proofs.EvalMono
import Casm.Proofs.ResolveLemmas
/-!
# Casm.Proofs.ModeMono — where the strict mode succeeds, the guessing mode computes the same

`guessOf c` is the context `c` with guessing allowed (`last := false`).  Everything the
resolver computes in the strict context and returns as `ok` it also returns in the guessing
context: guessing only turns errors into `Unknown` values, and the strict-only checks only add
errors (`monoFam`, for the evaluator and the mutual block of `Casm.Model.Resolve`).

For the item resolvers the claim is about stable results only.  `VLe V V'`: a verdict `V` that is *stable* is repeated
by `V'`, with no messages.  Each step of `Casm.Proofs.ItemStep` is related so to itself with `last := false`, hence an
item that the strict pass leaves stable leaves the same state in the guessing pass (`dispatch_guess`; its flag and
messages there are left open, an `#assert` being looked at in the last pass only).  `SameRun` is what the two passes share from node to node: the state, the position
of the iterator and the symbol context, not the flag or the messages.  `resolveOnce_guessF` is the whole pass: a strict
pass that ends stable is a guessing pass to the same state.  The `F` is for `first`: it holds for either value of the
first-pass flag, and `resolveOnce_guess` is the case `first = false`.
-/
namespace Casm

def guessOf (c : RCtx) : RCtx := { c with last := false }

theorem guessOf_canGuess (c : RCtx) : (guessOf c).canGuess = true := rfl
theorem guessOf_with (c : RCtx) (a b : Bool) : ({ guessOf c with first := a, last := b } : RCtx) = { c with first := a, last := b } := rfl
theorem guessOf_cur (c : RCtx) : (guessOf c).cur = c.cur := rfl
theorem guessOf_symCtx (c : RCtx) : (guessOf c).symCtx = c.symCtx := rfl
theorem guessOf_bank (c : RCtx) : (guessOf c).bank = c.bank := rfl
theorem guessOf_first (c : RCtx) : (guessOf c).first = c.first := rfl

theorem guessOf_self {c : RCtx} (h : c.last = false) : guessOf c = c := by
  cases c; cases h; rfl

theorem evalAddress_mono (defs : Defs) (c : RCtx) (g : Bool) : ExLe (evalAddress defs c g) (evalAddress defs (guessOf c) true) :=
  .guard fun h => nomatch h.2

theorem evalVariable_mono (st : Static) (defs : Defs) (c : RCtx) (level : Nat) (path : List String) :
    ExLe (evalVariable st defs c level path) (evalVariable st defs (guessOf c) level path) := by
  rcases evalVariable_cases level path with ⟨n, -, -, -, e⟩ | ⟨n, -, -, -, e⟩ | e <;> rw [e, e]
  · exact (evalAddress_mono defs c _).map _
  · exact .refl _
  · -- a symbol: strictness only turns `unknown` into an error
    exact .bind (.refl _) fun r => .guard fun h => nomatch h.2

structure MonoFam (st : Static) (defs : Defs) (f : Nat) : Prop where
  env : ∀ c, EnvLe (mkEnv st defs f c) (mkEnv st defs f (guessOf c))
  mtch : ∀ c m argCtx, ExLe (resolveMatch st defs f c m argCtx) (resolveMatch st defs f (guessOf c) m argCtx)
  args : ∀ c rule args i argCtx ruleCtx,
    ExLe (resolveArgs st defs f c rule args i argCtx ruleCtx) (resolveArgs st defs f (guessOf c) rule args i argCtx ruleCtx)
  mtchs : ∀ c ms argCtx acc, ExLe (resolveMatches st defs f c ms argCtx acc) (resolveMatches st defs f (guessOf c) ms argCtx acc)
  renc : ∀ c ms argCtx encs rep, resolveEncoding st defs f c ms argCtx = .ok (some encs, rep) →
        resolveEncoding st defs f (guessOf c) ms argCtx = .ok (some encs, [])
  once : ∀ c nodes ectx labels cur result unstable,
    ExLe (asmOnce st defs f c nodes ectx labels cur result unstable) (asmOnce st defs f (guessOf c) nodes ectx labels cur result unstable)
  iter : ∀ c nodes ectx labels budget it,
    ExLe (asmIterate st defs f c nodes ectx labels budget it) (asmIterate st defs f (guessOf c) nodes ectx labels budget it)
  asm : ∀ c text ectx, ExLe (evalAsm st defs f c text ectx) (evalAsm st defs f (guessOf c) text ectx)

theorem monoFam (st : Static) (defs : Defs) (f : Nat) : MonoFam st defs f := by
  induction f with
  | zero =>
    exact {
      env := fun c => ⟨by rw [mkEnv_var, mkEnv_var]; exact evalVariable_mono st defs c,
        fun _ _ _ _ h => (by rw [mkEnv] at h; cases h), fun _ _ _ h => (by rw [mkEnv] at h; cases h)⟩
      mtch := fun _ _ _ _ h => by rw [resolveMatch] at h; cases h
      args := fun _ _ _ _ _ _ _ h => by rw [resolveArgs] at h; cases h
      mtchs := fun _ _ _ _ _ h => by rw [resolveMatches] at h; cases h
      renc := fun _ _ _ _ _ h => by rw [resolveEncoding] at h; cases h
      once := fun _ _ _ _ _ _ _ _ h => by rw [asmOnce] at h; cases h
      iter := fun _ _ _ _ _ _ _ h => by rw [asmIterate] at h; cases h
      asm := fun _ _ _ _ h => by rw [evalAsm] at h; cases h }
  | succ f ih =>
    have heval (c : RCtx) (x : ECtx) (e : Expr) :
        ExLe (eval (mkEnv st defs f c) x e) (eval (mkEnv st defs f (guessOf c)) x e) := eval_mono _ _ (ih.env c) x e
    exact {
      env := fun c => by
        refine ⟨by rw [mkEnv_var, mkEnv_var]; exact evalVariable_mono st defs c, fun fv a cx => ?_, fun t cx => ?_⟩
        · rw [mkEnv, mkEnv]
          cases fv with
          | fn idx => exact ExLe.ite (.refl _) (.ite (.refl _) ((heval c _ _).map _))
          | _ => exact ExLe.refl _
        · rw [mkEnv_asm, mkEnv_asm]; exact ih.asm c t cx
      mtch := fun c m argCtx => by
        rw [resolveMatch_succ, resolveMatch_succ]
        exact .thenArgs (ih.args _ _ _ _ _ _) fun rc _ => (heval c rc _).map _
      args := fun c rule args i argCtx ruleCtx => by
        cases args with
        | nil => rw [resolveArgs_nil, resolveArgs_nil]; exact .refl _
        | cons a rest =>
          rw [resolveArgs_cons, resolveArgs_cons]
          refine .thenV ?_ fun v c => ih.args _ _ _ _ _ _
          cases a with
          | expr e _ _ _ => rw [argValue, argValue]; exact .thenV (heval c argCtx e) fun _ _ => .refl _
          | nested nm _ _ _ => exact ih.mtch c nm argCtx
      mtchs := fun c ms argCtx acc => by
        cases ms with
        | nil => rw [resolveMatches_nil, resolveMatches_nil]; exact .refl _
        | cons m rest =>
          rw [resolveMatches_cons, resolveMatches_cons]
          exact .bind (ih.mtch c m argCtx) fun x => .bind (.refl _) fun r => ih.mtchs _ _ _ _
      renc := fun c ms argCtx encs rep h => by
        rw [resolveEncoding_succ] at h ⊢
        obtain ⟨x, hx, h⟩ := map_ok _ _ _ h
        rw [ih.mtchs c ms argCtx [] x hx]
        exact congrArg Except.ok ((chooseEncoding_some h).2 true (.inl rfl))
      once := fun c nodes ectx labels cur result unstable => by
        have hcx : ({ guessOf c with cur := cur } : RCtx) = guessOf { c with cur := cur } := rfl
        cases nodes with
        | nil => rw [asmOnce, asmOnce]; exact .refl _
        | cons node rest =>
          cases node with
          | symbol lv name kind ne ref =>
            intro r h
            simp only [asmOnce] at h ⊢
            split at h
            next => cases h
            next a ha =>
              rw [hcx, guessOf_canGuess, evalAddress_mono defs _ _ a ha]
              exact ih.once _ _ _ _ _ _ _ _ h
          | instr src ref =>
            simp only [asmOnce]
            cases parseSubsts (src.length + 1) src 0 [] with
            | error e => exact .refl _
            | ok substs =>
              dsimp only
              cases performSubsts src substs ectx with
              | error e => exact .refl _
              | ok excerpt =>
                refine .ite (.refl _) fun r h => ?_
                rw [hcx]
                split at h
                next => cases h
                next encs rep he =>
                  rw [ih.renc _ _ _ _ _ he]; exact ih.once _ _ _ _ _ _ _ _ h
                next rep he =>
                  -- nothing was chosen and the pass goes on: it guesses already
                  have hl : c.last = false := by simpa [RCtx.canGuess] using (guard_ok h).1
                  rw [guessOf_self (c := { c with cur := cur }) hl, he, guessOf_self hl]
                  exact h
          | _ => simp only [asmOnce]; exact .refl _
      iter := fun c nodes ectx labels budget it => by
        have fin (lb) : ExLe (asmFinish st defs f c nodes ectx lb) (asmFinish st defs f (guessOf c) nodes ectx lb) :=
          .bind (ih.once { c with first := false, last := c.last } _ _ _ _ _ _) fun _ => .ite (.refl _) fun _ h =>
            -- an unstable block: `unknown` where guessing is allowed, as it is in `guessOf c`; an error where it is not
            ((ite_eq_cases h).resolve_right fun hh => nomatch hh.2).2
        rw [asmIterate_succ, asmIterate_succ]
        exact .ite (fin labels) (.bind (ih.once { c with first := it == 1, last := c.last && it == budget } _ _ _ _ _ _)
          fun x => .ite (fin x.2.2) (ih.iter c nodes ectx x.2.2 budget (it + 1)))
      asm := fun c text ectx => by
        simp only [evalAsm]
        refine .ite (.refl _) ?_
        cases parseNested (parseFuel text) text [] with
        | error e => exact .refl _
        | ok x =>
          dsimp only
          generalize List.foldl _ (Except.ok ([] : List (String × Value))) x.1 = chk
          cases chk with
          | error e => exact .refl _
          | ok labels => exact ih.iter c x.1 ectx labels _ 1 }

theorem mkEnv_le (st : Static) (defs : Defs) (fuel : Nat) (c : RCtx) :
    EnvLe (mkEnv st defs fuel c) (mkEnv st defs fuel (guessOf c)) := (monoFam st defs fuel).env c

theorem evalAsm_mono (st : Static) (defs : Defs) (fuel : Nat) (c : RCtx) (text : List Char) (ectx : ECtx) (v : Value)
    (h : evalAsm st defs fuel c text ectx = .ok v) : evalAsm st defs fuel (guessOf c) text ectx = .ok v :=
  (monoFam st defs fuel).asm c text ectx v h

theorem resolverEval_mono (st : Static) (defs : Defs) (c : RCtx) (ectx : ECtx) (e : Expr) :
    ExLe (resolverEval st defs c ectx e) (resolverEval st defs (guessOf c) ectx e) :=
  eval_mono _ _ (mkEnv_le st defs evalFuel c) ectx e

/-! ## the item resolvers: strict and stable ⇒ the guessing resolver computes the same state -/

theorem allDefinite_guess (st : Static) (defs : Defs) (c : RCtx) (cands : List IMatch)
    (x : Option (List (Nat × BI)) × List String)
    (h : resolveEncoding st defs evalFuel c cands {} = .ok x) :
    allDefinite st defs (guessOf c) cands = allDefinite st defs c cands := by
  rw [resolveEncoding_evalFuel] at h
  obtain ⟨y, hm, _⟩ := map_ok _ _ _ h
  unfold allDefinite
  rw [(monoFam st defs _).mtchs c cands {} [] y hm, hm]

def VLe {α} (V V' : Verdict α) : Prop := ∀ o r, V = .ok (o, true, r) → V' = .ok (o, true, [])

theorem VLe.skipped {α} : VLe (α := α) skipped skipped := fun _ _ h => by cases h; rfl

theorem VLe.ite {α} {c : Prop} [Decidable c] {A A' B B' : Verdict α} (hA : VLe A A') (hB : VLe B B') :
    VLe (if c then A else B) (if c then A' else B') := by
  split
  · exact hA
  · exact hB

theorem VLe.bind {α β} {x x' : Except String β} {f f' : β → Verdict α} (hx : ExLe x x') (hf : ∀ b, VLe (f b) (f' b)) :
    VLe (x.bind f) (x'.bind f') := by
  intro o r h
  obtain ⟨b, hb, h⟩ := bind_ok_inv h
  rw [hx b hb]
  exact hf b o r h

theorem VLe.commit {α} {L : Slot α} {d d' : Defs} {V V' : Verdict α} {r : List String} (hV : VLe V V')
    (h : L.commit d V = .ok (d', true, r)) : L.commit d V' = .ok (d', true, []) := by
  obtain ⟨o, h1, rfl⟩ := commit_ok h
  rw [hV o r h1]; rfl

theorem converge_guess {α} {last : Bool} {msg : String} {changed : Bool} {a : α} {check : Except String Unit} :
    VLe (converge last msg changed a check) (converge false msg changed a (.ok ())) := by
  intro o r h
  obtain ⟨rfl, hs, _⟩ := converge_ok h
  cases changed with
  | true => cases hs
  | false => rfl

theorem instrStep_guess {mark last : Bool} {ins : InstrDef} {encs : Option (List (Nat × BI))} {rep : List String} {definite : Bool} :
    VLe (instrStep mark last ins encs rep definite) (instrStep mark false ins encs [] definite) := by
  intro o r
  unfold instrStep
  cases (encs.bind fun l => l.head?.map (·.2)) with
  | none => exact fun h => nomatch h
  | some e =>
    intro h
    rcases ite_eq_cases h with ⟨hm, h⟩ | ⟨hm, h⟩
    · cases h; exact if_pos hm
    · rcases ite_eq_cases h with ⟨_, h⟩ | ⟨hc, h⟩
      · cases h
      · cases h; exact (if_neg hm).trans (if_neg hc)

theorem storeStep_guess {mark last : Bool} {x : DataDef} {v : Option BI} : VLe (storeStep mark last x v) (storeStep mark false x v) := by
  cases v with
  | none => exact fun _ _ h => nomatch h
  | some b => exact .ite (fun _ _ h => by cases h; rfl) converge_guess

/-- in the last pass a data element has to have a value, and then the checks of the last pass imply those of any other -/
theorem dataStep_guess {mark : Bool} {sz : Option Nat} {x : DataDef} {v : Value} :
    VLe (dataStep mark true sz x v) (dataStep mark false sz x v) := by
  intro o r h
  obtain ⟨enc, hen, hck, hs⟩ := dataStep_ok h
  have hv : ∃ b, enc = some b ∧ ∀ must, dataEnc must v = .ok (some b) := by
    cases v with
    | int b => exact ⟨b, (Except.ok.inj hen).symm, fun _ => rfl⟩
    | str s en => exact ⟨_, (Except.ok.inj hen).symm, fun _ => rfl⟩
    | _ => cases hen
  obtain ⟨b, rfl, hv⟩ := hv
  have hc : dataCheck (false || x.known) sz (some b) = .ok () := by
    cases hk : x.known with
    | true => rw [hk] at hck; exact hck
    | false => rfl
  unfold dataStep
  rw [hv, bind_ok, hc, bind_ok]
  exact storeStep_guess o r hs

theorem resStep_guess {last : Bool} {unit prev : Nat} {v : Value} : VLe (resStep last unit prev v) (resStep false unit prev v) :=
  .bind (.refl _) fun _ => .ite (fun _ _ h => nomatch h) converge_guess

theorem alignStep_guess {last : Bool} {prev : Nat} {v : Value} : VLe (alignStep last prev v) (alignStep false prev v) :=
  .bind (.refl _) fun _ => converge_guess

theorem addrStep_guess {last : Bool} {b : Bank} {prev : Int} {v : Value} : VLe (addrStep last b prev v) (addrStep false b prev v) :=
  .bind (.refl _) fun _ => converge_guess

theorem dispatch_guess (st : Static) (defs defs' : Defs) (c : RCtx) (hlast : c.last = true) (n : AstNode) (k : Nat) (rep : List String)
    (h : dispatch st defs c n k = .ok (defs', true, rep)) :
    ∃ b rep', dispatch st defs (guessOf c) n k = .ok (defs', b, rep') := by
  have hev := resolverEval_mono st defs c {}
  unfold dispatch at h ⊢
  split at h
  next level name kind ne ref =>
    cases kind with
    | label =>
      simp only [resolveLabel_eq] at h ⊢
      exact ⟨true, [], VLe.commit (.bind (evalAddress_mono defs c _) fun _ => converge_guess) h⟩
    | constant e =>
      simp only [resolveConstant_eq] at h ⊢
      exact ⟨true, [], VLe.commit (.ite .skipped (.bind (hev e) fun _ => converge_guess)) h⟩
  next =>
    simp only [resolveInstruction_eq] at h ⊢
    refine ⟨true, [], VLe.commit (.ite .skipped fun o r hV => ?_) h⟩
    obtain ⟨⟨encs, reported⟩, hx, hs⟩ := bind_ok_inv hV
    rw [allDefinite_guess st defs c _ _ hx]
    cases encs with
    | none => cases hs
    | some l => rw [(monoFam st defs evalFuel).renc c _ _ l reported hx]; exact instrStep_guess o r hs
  next =>
    simp only [resolveData_eq, hlast] at h ⊢
    exact ⟨true, [], VLe.commit (.ite .skipped (.bind (hev _) fun _ => dataStep_guess)) h⟩
  next =>
    simp only [resolveRes_eq] at h ⊢
    exact ⟨true, [], VLe.commit (.bind (hev _) fun _ => resStep_guess) h⟩
  next =>
    simp only [resolveAlign_eq] at h ⊢
    exact ⟨true, [], VLe.commit (.bind (hev _) fun _ => alignStep_guess) h⟩
  next =>
    simp only [resolveAddr_eq] at h ⊢
    exact ⟨true, [], VLe.commit (.bind (hev _) fun _ => addrStep_guess) h⟩
  next =>
    -- an `#assert` is looked at in the last pass only
    simp only [resolveAssert_eq] at h ⊢
    obtain ⟨o, -, rfl⟩ := commit_ok h
    exact ⟨false, [], by cases o <;> rfl⟩
  next => exact ⟨true, rep, h⟩

/-! ## the whole pass: one that ends stable was stable after every node, so `dispatch_guess` applies at each -/

def SameRun (a b : PassSt) : Prop := a.defs = b.defs ∧ a.it = b.it ∧ a.symCtx = b.symCtx

theorem passNode_guessF (st : Static) (first : Bool) (ps pg ps' : PassSt) (n : AstNode) (k : Nat) (rel : SameRun ps pg)
    (h : passNode st first true ps n k = .ok ps') (hs : ps'.stable = true) :
    ∃ pg', passNode st first false pg n k = .ok pg' ∧ SameRun ps' pg' := by
  obtain ⟨r1, r2, r3⟩ := rel
  obtain ⟨_, it, r, hv, hd, ha, hsc, _⟩ := passNode_inv_stable h hs
  obtain ⟨b, rep', hg⟩ := dispatch_guess st ps.defs ps'.defs _ rfl n k r hd
  refine ⟨⟨ps'.defs, ps'.it, ps'.symCtx, pg.stable && b, pg.reported ++ rep'⟩, ?_, rfl, rfl, rfl⟩
  rw [passNode_eq', ← r1, ← r2, ← r3, hv]
  simp only [guessOf] at hg
  simp only [hg, ha, hsc]

theorem resolveOnce_guessF (st : Static) (first : Bool) (nodes : List AstNode) (d d' : Defs) (rep : List String)
    (h : resolveOnce st nodes first true d = .ok (d', true, rep)) :
    ∃ b rep', resolveOnce st nodes first false d = .ok (d', b, rep') := by
  obtain ⟨ps, hp, rfl, hs, _⟩ := resolveOnce_ok.mp h
  obtain ⟨pg, hg, rel⟩ := runVisits_sim (R := SameRun) hp ⟨rfl, rfl, rfl⟩
    fun _ n k _ a a' b _ _ hq hrest rel => passNode_guessF st first a b a' n k rel hq (runVisits_stable_mono hrest hs)
  exact ⟨pg.stable, pg.reported, resolveOnce_ok.mpr ⟨pg, hg, rel.1.symm, rfl, rfl⟩⟩

theorem resolveOnce_guess (st : Static) (nodes : List AstNode) (d d' : Defs) (rep : List String)
    (h : resolveOnce st nodes false true d = .ok (d', true, rep)) :
    ∃ b rep', resolveOnce st nodes false false d = .ok (d', b, rep') :=
  resolveOnce_guessF st false nodes d d' rep h

end Casm
