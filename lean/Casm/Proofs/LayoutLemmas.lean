import Casm.Model.Layout
import Casm.Proofs.ListLemmas
/-! A bit of the output read after `extendTo`, `writeAt`, `fillBanks`; what an accepted check, node or step of
    `build_output` checked and did. -/
namespace Casm

theorem length_extendTo (out : List Bool) (n : Nat) : (extendTo out n).length = max out.length n := by
  rw [extendTo, List.length_append, List.length_replicate, Nat.add_comm, Nat.sub_add_eq_max, Nat.max_comm]

theorem readBit_extendTo (out : List Bool) (n i : Nat) : readBit (extendTo out n) i = readBit out i := by
  rw [extendTo, readBit, readBit, getD_append_replicate]

theorem getElem?_take_append_drop {α} (l bs : List α) (pos i : Nat) (h : pos ≤ l.length) :
    (l.take pos ++ bs ++ l.drop (pos + bs.length))[i]? =
      if pos ≤ i ∧ i < pos + bs.length then bs[i - pos]? else l[i]? := by
  have hp := List.length_take_of_le h
  rw [List.append_assoc]
  by_cases h1 : i < pos
  · rw [List.getElem?_append_left (by rwa [hp]), List.getElem?_take_of_lt h1, if_neg (fun c => Nat.not_le_of_lt h1 c.1)]
  · obtain ⟨j, rfl⟩ := Nat.exists_eq_add_of_le (Nat.le_of_not_lt h1)
    rw [List.getElem?_append_right (by rw [hp]; exact Nat.le_add_right ..), hp, Nat.add_sub_cancel_left]
    simp only [Nat.le_add_right, true_and, Nat.add_lt_add_iff_left]
    by_cases h2 : j < bs.length
    · rw [if_pos h2, List.getElem?_append_left h2]
    · obtain ⟨k, rfl⟩ := Nat.exists_eq_add_of_le (Nat.le_of_not_lt h2)
      rw [if_neg h2, List.getElem?_append_right (Nat.le_add_right ..), Nat.add_sub_cancel_left, List.getElem?_drop,
        Nat.add_assoc]

theorem writeAt_eq (out : List Bool) (pos : Nat) (bs : List Bool) :
    writeAt out pos bs = (extendTo out (pos + bs.length)).take pos ++ bs ++
      (extendTo out (pos + bs.length)).drop (pos + bs.length) := rfl

theorem length_writeAt (out : List Bool) (pos : Nat) (bs : List Bool) :
    (writeAt out pos bs).length = max out.length (pos + bs.length) := by
  have h : pos + bs.length ≤ (extendTo out (pos + bs.length)).length := by
    rw [length_extendTo]; exact Nat.le_max_right ..
  rw [writeAt_eq, List.length_append, List.length_append, List.length_take_of_le (Nat.le_trans (Nat.le_add_right ..) h),
    List.length_drop, Nat.add_sub_cancel' h, length_extendTo]

theorem readBit_writeAt (out : List Bool) (pos : Nat) (bs : List Bool) (i : Nat) :
    readBit (writeAt out pos bs) i =
      if pos ≤ i ∧ i < pos + bs.length then bs.getD (i - pos) false else readBit out i := by
  have h : pos ≤ (extendTo out (pos + bs.length)).length := by
    rw [length_extendTo]; exact Nat.le_trans (Nat.le_add_right ..) (Nat.le_max_right ..)
  rw [← readBit_extendTo out (pos + bs.length) i]
  simp only [readBit, List.getD_eq_getElem?_getD, writeAt_eq, getElem?_take_append_drop _ _ _ _ h]
  split <;> rfl

theorem readBit_fillBanks (banks : List Bank) (out : List Bool) (i : Nat) :
    readBit (fillBanks banks out) i = readBit out i := by
  unfold fillBanks
  induction banks generalizing out with
  | nil => rfl
  | cons b rest ih =>
    rw [List.foldl_cons, ih]
    split
    · split
      · exact readBit_extendTo ..
      · rfl
    · rfl

theorem fillBanks_zero (banks : List Bank) (out : List Bool) (h : ∀ i, readBit out i = false) :
    ∀ i, readBit (fillBanks banks out) i = false := fun i => (readBit_fillBanks banks out i).trans (h i)

theorem checkBankOutput_ok (b : Bank) (cur size : Nat) (write : Bool)
    (h : checkBankOutput b cur size write = .ok ()) :
    (∀ sz, b.size = some sz → cur + size ≤ sz) ∧ outputFits b cur size = true ∧
      (write = true → b.outp.isSome = true) := by
  unfold checkBankOutput at h
  -- the checks after the one of the bank size are the same with and without a size: treat them once
  generalize hT : (if (!outputFits b cur size) = true then _ else _ : Except LayErr Unit) = T at h
  have hT' : T = .ok () → outputFits b cur size = true ∧ (write = true → b.outp.isSome = true) := by
    subst hT
    intro e
    split at e
    · cases e
    next hf =>
      split at e
      · cases e
      next hw =>
        refine ⟨by simpa using hf, fun w => ?_⟩
        cases ho : b.outp with
        | none => exact absurd ⟨w, by rw [ho]; rfl⟩ hw
        | some _ => rfl
  split at h
  next sz hsz =>
    split at h
    · cases h
    next hle => exact ⟨fun sz' e => Option.some.inj (hsz.symm.trans e) ▸ Nat.le_of_not_lt hle, hT' h⟩
  next hsz => exact ⟨fun sz e => (nomatch hsz.symm.trans e), hT' h⟩

/-- so `outp + position + size` is never taken modulo 2^64 -/
theorem checkBankOutput_fits (b : Bank) (cur size : Nat) (write : Bool)
    (h : checkBankOutput b cur size write = .ok ()) : ∀ o, b.outp = some o → o + cur + size < 2 ^ 64 := by
  intro o ho
  have hf := (checkBankOutput_ok b cur size write h).2.1
  unfold outputFits at hf
  rw [ho] at hf
  exact of_decide_eq_true hf

theorem checkBankUsage_ok (banks : List Bank) (s : IterSt) (h : checkBankUsage banks s = .ok ()) :
    ¬ (s.bank = 0 ∧ banks.length ≠ 1) := by
  unfold checkBankUsage at h
  split at h
  · cases h
  · assumption

theorem nodeEmit_ok (banks : List Bank) (b : Bank) (it : IterSt) (st st' : BuildSt) (bits : List Bool)
    (h : nodeEmit banks b it st bits = .ok st') :
    ∃ o, b.outp = some o ∧
      ¬ (it.bank = 0 ∧ banks.length ≠ 1) ∧
      (∀ sz, b.size = some sz → it.pos + bits.length ≤ sz) ∧
      checkAndInsert st.ov (o + it.pos) bits.length = some st'.ov ∧
      st'.out = writeAt st.out (o + it.pos) bits ∧
      st'.spans = st.spans ++ [⟨some (o + it.pos), bits.length, getAddress b it.pos⟩] ∧
      st'.it = it := by
  unfold nodeEmit at h
  split at h
  · cases h
  next hu =>
    split at h
    · cases h
    next hw =>
      cases ho : b.outp with
      | none => simp only [getOutputPosition, ho, Option.map_none] at h; cases h
      | some o =>
        simp only [getOutputPosition, ho, Option.map_some] at h
        split at h
        · cases h
        next hci =>
          cases h
          exact ⟨o, rfl, checkBankUsage_ok banks it hu, (checkBankOutput_ok _ _ _ _ hw).1, hci, rfl, rfl, rfl⟩

theorem nodeRes_ok (banks : List Bank) (b : Bank) (it : IterSt) (st st' : BuildSt) (n : Nat)
    (h : nodeRes banks b it st n = .ok st') :
    st'.out = st.out ∧ st'.spans = st.spans ∧ st'.it = it ∧
    (st'.ov = st.ov ∨ ∃ o, b.outp = some o ∧ checkAndInsert st.ov (o + it.pos) n = some st'.ov) := by
  unfold nodeRes at h
  split at h
  · cases h
  · split at h
    · cases h
    · cases ho : b.outp with
      | none =>
        simp only [getOutputPosition, ho, Option.map_none] at h
        cases h; exact ⟨rfl, rfl, rfl, .inl rfl⟩
      | some o =>
        simp only [getOutputPosition, ho, Option.map_some] at h
        split at h
        · cases h
        next hci => cases h; exact ⟨rfl, rfl, rfl, .inr ⟨o, rfl, hci⟩⟩

theorem nodeLabel_ok (banks : List Bank) (b : Bank) (it : IterSt) (st st' : BuildSt) (v : Int)
    (h : nodeLabel banks b it st v = .ok st') :
    st'.out = st.out ∧ st'.ov = st.ov ∧ st'.it = it ∧
    st'.spans = st.spans ++ [⟨getOutputPosition b it.pos, 0, v⟩] := by
  unfold nodeLabel at h
  split at h
  · cases h
  · split at h
    · cases h
    · cases h; exact ⟨rfl, rfl, rfl, rfl⟩

theorem buildStep_ok {banks : List Bank} {st st' : BuildSt} {item : RItem} (h : buildStep banks st item = .ok st') :
    ∃ it b st1 it', banks[it.bank]? = some b ∧ nodeOf banks b it st item = .ok st1 ∧ st' = { st1 with it := it' } := by
  unfold buildStep at h
  split at h
  · cases h
  split at h
  · cases h
  next hb =>
    split at h
    · cases h
    next hn =>
      split at h
      · cases h
      · cases h; exact ⟨_, _, _, _, hb, hn, rfl⟩

end Casm
