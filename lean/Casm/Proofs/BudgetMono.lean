import Casm.Proofs.ModeMono
import Casm.Proofs.StableId
import Casm.Proofs.IterModel
import Casm.Proofs.Corner
/-!
# Casm.Proofs.BudgetMono — a larger budget reaches the same final state (model of `resolve_iteratively`)

The model's pass obeys the laws of `Casm.Iter.LawsOn` on well-formed states (`absPass_laws`): every pass returns a
well-formed state (`pass_establishes_ok`); a stable pass that is not the first is the identity on such
a state (`resolveOnce_stable_id`); where a strict pass is stable the guessing pass computes the same
state (`resolveOnce_guessF`).  Budget monotonicity is then `Casm.Iter.budget_monotone_on`
(`budget_monotone_absPass`; from a budget of at least two, `budget_monotone_model`).

A successful assembly with budget 1 consists of one pass that is first, strict and stable.  Its result
is a fixed point of the strict pass (`cornerL_resolveOnce`: for nodes with `Uniq`, from a state with `NodesOK`), which
is what `budget_monotone_absPass` asks of that budget: every larger budget reaches that state in its first
pass and stays there.  `budget_monotone_any` starts from every budget and returns the messages as well:
under either budget they are those of the confirming pass on the same state (`resolveIterativelyN_rep_any`).
-/
namespace Casm

theorem absPass_laws (st : Static) (nodes : List AstNode) (hwf : NoClash nodes) :
    Iter.LawsOn (absPass st nodes) (fun d => NodesOK d nodes) where
  inv := fun fl s s' b h => by
    obtain ⟨r, hr⟩ := absPass_ok.mp h
    exact pass_establishes_ok st nodes _ _ s s' b r hr hwf
  stableId := fun l s s' hok h => by
    obtain ⟨r, hr⟩ := absPass_ok.mp h
    exact resolveOnce_stable_id st nodes l s s' r hr hok
  modeMono := fun f s s' h => by
    obtain ⟨r, hr⟩ := absPass_ok.mp h
    obtain ⟨b, r', hg⟩ := resolveOnce_guessF st f nodes s s' r hr
    exact ⟨b, absPass_ok.mpr ⟨r', hg⟩⟩

theorem budget_monotone_of_iterate {st : Static} {nodes : List AstNode} {n m : Nat} {d0 : Defs} {k : Nat} {d : Defs} {rep : List String}
    (h : resolveIterativelyN st nodes n d0 = .ok (k, d, rep))
    (hi : Iter.iterate (absPass st nodes) n d0 = .ok (k, d) → ∃ k', Iter.iterate (absPass st nodes) m d0 = .ok (k', d)) :
    ∃ k' rep', resolveIterativelyN st nodes m d0 = .ok (k', d, rep') := by
  obtain ⟨k', hk'⟩ := hi (resolveIterativelyN_sim st nodes n d0 k d rep h)
  exact ⟨k', resolveIterativelyN_abs.mp hk'⟩

/-- `h1` is what a budget of one pass needs -/
theorem budget_monotone_absPass (st : Static) (nodes : List AstNode) (hwf : NoClash nodes) (n m : Nat) (hn : 1 ≤ n) (hnm : n ≤ m)
    (d0 : Defs) (h1 : n = 1 → ∀ d r, resolveOnce st nodes true true d0 = .ok (d, true, r) →
      ∃ r', resolveOnce st nodes false true d = .ok (d, true, r'))
    (k : Nat) (d : Defs) (rep : List String) (h : resolveIterativelyN st nodes n d0 = .ok (k, d, rep)) :
    ∃ k' rep', resolveIterativelyN st nodes m d0 = .ok (k', d, rep') :=
  budget_monotone_of_iterate h <| Iter.budget_monotone_on (absPass st nodes) (absPass_laws st nodes hwf) n m hn hnm d0
    (fun hn1 s' hp => by
      obtain ⟨r, hr⟩ := absPass_ok.mp hp
      exact absPass_ok.mpr (h1 hn1 s' r hr)) k d

theorem budget_monotone_model (st : Static) (nodes : List AstNode) (hwf : NoClash nodes) (n m : Nat) (hn : 2 ≤ n) (hnm : n ≤ m)
    (d0 : Defs) (k : Nat) (d : Defs) (rep : List String) (h : resolveIterativelyN st nodes n d0 = .ok (k, d, rep)) :
    ∃ k' rep', resolveIterativelyN st nodes m d0 = .ok (k', d, rep') :=
  budget_monotone_absPass st nodes hwf n m (by omega) hnm d0 (fun h1 => by omega) k d rep h

theorem budget_monotone_any (st : Static) (nodes : List AstNode) (hwf : NoClash nodes) (u : Uniq nodes)
    (d0 : Defs) (hok0 : NodesOK d0 nodes) (n m : Nat) (hn : 1 ≤ n) (hnm : n ≤ m) (k : Nat) (d : Defs) (rep : List String)
    (h : resolveIterativelyN st nodes n d0 = .ok (k, d, rep)) :
    ∃ k', resolveIterativelyN st nodes m d0 = .ok (k', d, rep) := by
  obtain ⟨k', rep', h'⟩ := budget_monotone_absPass st nodes hwf n m hn hnm d0
    (fun _ d r hp => ⟨r, cornerL_resolveOnce st true true nodes hwf u d0 d r hok0 hp⟩) k d rep h
  have e := resolveIterativelyN_rep_any st nodes m (by omega) hwf u d0 hok0 k' d rep' h'
  rw [resolveIterativelyN_rep_any st nodes n hn hwf u d0 hok0 k d rep h] at e
  cases e
  exact ⟨k', h'⟩

theorem budget_monotone_from_one (st : Static) (nodes : List AstNode) (hwf : NoClash nodes) (u : Uniq nodes)
    (d0 : Defs) (hok0 : NodesOK d0 nodes) (k : Nat) (d : Defs) (rep : List String)
    (h : resolveIterativelyN st nodes 1 d0 = .ok (k, d, rep)) (m : Nat) (hm : 1 ≤ m) :
    ∃ k' rep', resolveIterativelyN st nodes m d0 = .ok (k', d, rep') :=
  (budget_monotone_any st nodes hwf u d0 hok0 1 m (Nat.le_refl 1) hm k d rep h).imp fun _ h' => ⟨rep, h'⟩

end Casm
