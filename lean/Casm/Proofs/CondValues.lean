import Casm.Proofs.FrontInv
/-!
# Casm.Proofs.CondValues — during the first loop of `assemble` names and definite values are kept

Every global reference that resolves keeps resolving to the same declaration across one successful `declare` on a
`Built` table (`declare_keeps_lookup`), hence across `collect`, hence across every round of the loop.
`defineSymbols` creates slots holding `Unknown`; `resolve_constants_simple` overwrites the value of a
constant that is not marked — with a define (then the constant had no value yet), or with the result of
`eval_simple` (then, if it had a definite value, that value was the result of `eval_simple` in an earlier
state, and by `evalSimple_later` the new result is the same).  Hence every round leads to a `Later` state (`round_later`).
-/
namespace Casm

theorem root_lookup_shape (m : SymMgr) (level : Nat) (path : List String) (r : Nat)
    (h : m.tryGetByName [] level path = some r) : level ≤ 0 ∧ path ≠ [] := by
  unfold SymMgr.tryGetByName at h
  obtain ⟨hl, h⟩ := guard_some h
  refine ⟨Nat.le_of_not_lt hl, ?_⟩
  rintro rfl
  cases h

theorem DeclStep.later {d d' : Decls} {n n' : AstNode} (h : DeclStep d n d' n') (hb : Built d.symbols) (defs : Defs) :
    Later d defs d' defs := by
  refine ⟨fun ul up r hr => ?_, fun _ _ h _ => h⟩
  rcases h.table with e | ⟨ctx, nm, l, k, idx, hc, hd⟩
  · rw [e]; exact hr
  · obtain ⟨hl, hp⟩ := root_lookup_shape _ ul up r hr
    exact declare_keeps_lookup (built_wf hb) (resolves_take _ (built_wf hb) ctx hc l) hd (.inl List.take_nil) hl hp hr

theorem collectAll_later {d d' : Decls} {nodes nodes' : List AstNode} (hb : Built d.symbols)
    (h : collectAll d nodes = .ok (d', nodes')) (defs : Defs) : Later d defs d' defs :=
  ((collectAll_steps h).inv (P := fun d1 _ => Built d1.symbols ∧ Later d defs d1 defs)
    (fun hp hs => ⟨hs.built hp.1, hp.2.trans (hs.later hp.1 defs)⟩) ⟨hb, .refl _ _⟩).2

def ValLe (defs defs' : Defs) : Prop :=
  ∀ r v, slotVal defs r = .ok v → v.shouldPropagate = false → slotVal defs' r = .ok v

theorem ValLe.refl (defs : Defs) : ValLe defs defs := fun _ _ h _ => h
theorem ValLe.trans {a b c : Defs} (h1 : ValLe a b) (h2 : ValLe b c) : ValLe a c :=
  fun r v h hv => h2 r v (h1 r v h hv) hv

theorem later_of (d : Decls) (defs defs' : Defs) (h : ValLe defs defs') : Later d defs d defs' := ⟨fun _ _ _ h => h, h⟩

theorem valLe_of_slot {defs defs' : Defs} (r : Nat) (s : SymDef)
    (hx : SlotSet defs defs' r s) (h : (defs.sym r).value.shouldPropagate = false → s.value = (defs.sym r).value) : ValLe defs defs' := by
  intro r' v hv hp
  rw [slotVal_eq] at hv ⊢
  injection hv with hv
  rw [hx.sym]
  by_cases he : r' = r
  · subst he
    rw [if_pos rfl, h (by rw [hv]; exact hp), hv]
  · rw [if_neg he, hv]

/-- what the loop knows about a constant that holds a definite value and is not marked: no define names
    it, and the value is what `eval_simple` gave for its expression in an earlier state -/
def CI (opts : Opts) (d : Decls) (defs : Defs) : AstNode → Prop
  | .symbol _ _ (.constant e) _ (some r) =>
    (defs.sym r).value.shouldPropagate = false → (defs.sym r).resolved = false →
      notDefined opts d r = true ∧ ∃ d0 defs0, Later d0 defs0 d defs ∧ evalSimple d0 defs0 e = .ok (defs.sym r).value
  | _ => True

def CInv (opts : Opts) (d : Decls) (defs : Defs) (nodes : List AstNode) : Prop := ∀ n ∈ nodes, CI opts d defs n

theorem CI_noref (opts : Opts) (d : Decls) (defs : Defs) (n : AstNode) (h : symRef n = none) : CI opts d defs n := by
  cases n with
  | symbol l nm kd ne rr =>
    cases rr with
    | none => cases kd <;> trivial
    | some r => cases h
  | _ => trivial

theorem CI_step (opts : Opts) (d d' : Decls) (defs defs' : Defs) (n : AstNode)
    (hsym : ∀ r, symRef n = some r → defs'.sym r = defs.sym r)
    (hnd : ∀ r, symRef n = some r → notDefined opts d' r = notDefined opts d r)
    (hl : Later d defs d' defs') (h : CI opts d defs n) : CI opts d' defs' n := by
  cases hr : symRef n with
  | none => exact CI_noref opts d' defs' n hr
  | some r =>
    obtain ⟨_, _, kd, _, rfl⟩ := symRef_eq_some.1 hr
    cases kd with
    | label => trivial
    | constant e =>
      simp only [CI] at h ⊢
      rw [hsym r rfl, hnd r rfl]
      intro hp hr
      obtain ⟨h1, d0, defs0, hl0, he⟩ := h hp hr
      exact ⟨h1, d0, defs0, hl0.trans hl, he⟩

theorem CI_noslot (opts : Opts) (d : Decls) (defs : Defs) (n : AstNode) (r : Nat) (hr : symRef n = some r)
    (hv : (defs.sym r).value = .unknown) : CI opts d defs n := by
  obtain ⟨_, _, kd, _, rfl⟩ := symRef_eq_some.1 hr
  cases kd with
  | label => trivial
  | constant e => simp only [CI, hv]; exact nofun

theorem CInv.set {opts : Opts} {d : Decls} {defs defs' : Defs} {nodes : List AstNode} (c : CInv opts d defs nodes) (r : Nat) (s : SymDef)
    (hx : SlotSet defs defs' r s) (hv : ValLe defs defs')
    (hci : ∀ n ∈ nodes, symRef n = some r → CI opts d defs' n) : CInv opts d defs' nodes := fun m hm => by
  by_cases hr : symRef m = some r
  · exact hci m hm hr
  · refine CI_step opts d d defs defs' m (fun r' hr' => ?_) (fun _ _ => rfl) (later_of d defs _ hv) (c m hm)
    rw [hx.sym, if_neg fun (he : r' = r) => hr (he ▸ hr')]

theorem CInv.write {opts : Opts} {d : Decls} {x : Defs} {nodes : List AstNode} (cx : CInv opts d x nodes) (fx : FInv opts d x nodes)
    (sx : SlotsOK x nodes) {lv : Nat} {nm : String} {e : Expr} {ne : Bool} {r : Nat}
    (hn : AstNode.symbol lv nm (.constant e) ne (some r) ∈ nodes) (s' : SymDef)
    (hkeep : (x.sym r).value.shouldPropagate = false → s'.value = (x.sym r).value)
    (hci : ValLe x (x.setSym r s') → CI opts d (x.setSym r s') (.symbol lv nm (.constant e) ne (some r))) :
    CInv opts d (x.setSym r s') nodes ∧ ValLe x (x.setSym r s') := by
  have hslot := slot_setSym_eq x r s' (sx _ hn r rfl)
  have hv := valLe_of_slot r _ hslot hkeep
  exact ⟨cx.set r _ hslot hv fun m hm hr => by cases fx.fn m hm _ hn r hr rfl; exact hci hv, hv⟩

theorem consts_later {opts : Opts} {d : Decls} {defs defs' : Defs} {nodes : List AstNode} {c : Nat}
    (f : FInv opts d defs nodes) (hs : SlotsOK defs nodes) (ci : CInv opts d defs nodes)
    (h : resolveConstantsSimple opts d defs nodes = .ok (defs', c)) :
    FInv opts d defs' nodes ∧ SlotsOK defs' nodes ∧ CInv opts d defs' nodes ∧ ValLe defs defs' := by
  refine resolveConstantsSimple_ind opts d
    (fun x => FInv opts d x nodes ∧ SlotsOK x nodes ∧ CInv opts d x nodes ∧ ValLe defs x) ?_ ?_ ⟨f, hs, ci, ValLe.refl _⟩ h
  · -- a define: the constant had no definite value yet (one that has is named by no define)
    intro x lv nm e ne r dv hn ⟨fx, sx, cx, vx⟩ hres hfind
    obtain ⟨f', s'⟩ := fx.step_def sx hn hfind
    obtain ⟨c', hv⟩ := cx.write fx sx hn { x.sym r with value := dv.2, resolved := true }
      (fun hq => nomatch ((cx _ hn) hq hres).1.symm.trans (notDefined_of_some hfind))
      (fun _ => by simp only [CI, sym_setSym_self x r _ (sx _ hn r rfl)]; exact fun _ h => nomatch h)
    exact ⟨f', s', c', vx.trans hv⟩
  · -- an evaluation: a definite value was the result of `eval_simple` in an earlier state, and is the result again
    intro x lv nm e ne r v hn ⟨fx, sx, cx, vx⟩ hres hfind hev
    obtain ⟨f', s'⟩ := fx.step_ev sx hn hres hev
    obtain ⟨c', hv⟩ := cx.write fx sx hn (writeOf opts (x.sym r) v)
      (fun hq => by
        obtain ⟨_, d0, defs0, hl0, he0⟩ := (cx _ hn) hq hres
        have := evalSimple_later d0 defs0 d x hl0 e _ he0 hq
        rw [hev] at this
        rw [writeOf_value]
        injection this)
      (fun hv => by
        simp only [CI, sym_setSym_self x r _ (sx _ hn r rfl), writeOf_value]
        exact fun _ _ => ⟨notDefined_iff.2 hfind, d, x, later_of d x _ hv, hev⟩)
    exact ⟨f', s', c', vx.trans hv⟩

theorem CInv.sub {opts : Opts} {d : Decls} {defs : Defs} {nodes out : List AstNode} (c : CInv opts d defs nodes)
    (hs : RefSub out nodes) : CInv opts d defs out :=
  hs.forall (CI_noref opts d defs) c

theorem CInv.declStep {opts : Opts} {d d' : Decls} {defs : Defs} {pre post : List AstNode} {n n' : AstNode}
    (f : FInv opts d defs (pre ++ n :: post)) (c : CInv opts d defs (pre ++ n :: post)) (hb : Built d.symbols)
    (h : DeclStep d n d' n') : CInv opts d' defs (pre ++ n' :: post) := fun x hx => by
  rcases h.mem hx with hx | ⟨rfl, hr | hr⟩
  · exact CI_step opts d d' defs defs x (fun _ _ => rfl) (fun r' hr' => notDefined_ext opts h.ext ((f.kinv x hx).lt hr'))
      (h.later hb defs) (c x hx)
  · exact CI_noref opts d' defs _ hr
  · exact CI_noslot opts d' defs _ _ hr (by rw [sym_of_noslot defs _ f.noslot])

theorem CInv.init (opts : Opts) (d : Decls) (parsed : List AstNode) : CInv opts d {} (parsed.map AstNode.fresh) := fun n hn => by
  obtain ⟨y, -, rfl⟩ := List.mem_map.mp hn
  exact CI_noref opts _ _ _ (symRef_fresh y)

theorem CInv.collect {opts : Opts} {d d' : Decls} {defs : Defs} {nodes nodes' : List AstNode} (f : FInv opts d defs nodes)
    (c : CInv opts d defs nodes) (hb : Built d.symbols) (h : collectAll d nodes = .ok (d', nodes')) : CInv opts d' defs nodes' :=
  ((collectAll_steps h).inv (P := fun d l => FInv opts d defs l ∧ CInv opts d defs l ∧ Built d.symbols)
    (fun hp hs => ⟨hp.1.declStep hs, hp.2.1.declStep hp.1 hp.2.2 hs, hs.built hp.2.2⟩) ⟨f, c, hb⟩).2.1

/-- `define_symbols` makes slots without a value, and touches no slot that exists -/
theorem defineSymbols_later {opts : Opts} {d : Decls} {nodes : List AstNode} (l : List AstNode) (defs : Defs) (c : CInv opts d defs nodes) :
    CInv opts d (defineSymbols defs l) nodes ∧ ValLe defs (defineSymbols defs l) := by
  rw [defineSymbols_eq]
  refine List.foldlRecOn l defineStep (motive := fun x => CInv opts d x nodes ∧ ValLe defs x) ⟨c, .refl _⟩ fun x hx n _ => ?_
  rcases defineStep_spec x n with ⟨e, _⟩ | ⟨lv, nm, kind, ne, r, known, rfl, hno, _, _, e⟩ <;> rw [e]
  · exact hx
  · have hv : ValLe x { x with symbols := (padTo x.symbols r none).set r (some { noEmit := ne, known := known }) } :=
      valLe_of_slot r _ (slot_padset _ r · _) (fun hq => by rw [sym_of_noslot x r hno] at hq; cases hq)
    exact ⟨hx.1.set r _ (slot_padset _ r · _) hv fun m _ hr =>
      CI_noslot opts d _ m r hr (by simp only [sym_padset, if_true]), hx.2.trans hv⟩

/-- `d1`, `defs2` is the state in which the conditions of the round are evaluated -/
theorem round_later {opts : Opts} {d d1 : Decls} {defs defs2 : Defs} {nodes n1 : List AstNode} {cnt : Nat}
    (f : FInv opts d defs nodes) (c : CInv opts d defs nodes) (hb : Built d.symbols)
    (hc : collectAll d nodes = .ok (d1, n1))
    (hr : resolveConstantsSimple opts d1 (defineSymbols defs n1) n1 = .ok (defs2, cnt)) :
    Later d defs d1 defs2 ∧ FInv opts d1 defs2 n1 ∧ SlotsOK defs2 n1 ∧ CInv opts d1 defs2 n1 ∧ Built d1.symbols := by
  obtain ⟨f2, s2⟩ := (f.collect hc).defineAll
  obtain ⟨c2, v2⟩ := defineSymbols_later (opts := opts) (d := d1) (nodes := n1) n1 defs (c.collect f hb hc)
  obtain ⟨f3, s3, c3, v3⟩ := consts_later f2 s2 c2 hr
  exact ⟨(collectAll_later hb hc defs).trans (later_of d1 defs defs2 (v2.trans v3)), f3, s3, c3,
    collectAll_built d d1 nodes n1 hb hc⟩

end Casm
