import Casm.Proofs.ItemStep
import Casm.Proofs.StableId
import Casm.Proofs.RecomputeS
import Casm.Proofs.Frozen
import Casm.Proofs.FullFix
import Casm.Proofs.SwitchPass
import Casm.Proofs.BudgetMono
import Casm.Proofs.Quiet
import Casm.Proofs.Corner
/-!
# Casm.Proofs.SwitchSim — the two settings of the static-value optimisation side by side

`st` is the optimising assembler, `st.withStatic false` the one started with `--debug-no-optimize-static`.  The state
of the second is the state of the first with the first-pass marks cleared (`Defs.unfS H`, `H` = the symbols marked
under both settings).

One step (`dispatch_sim`) gives related results (`SimR`): the same error, or the same values, the same messages and — in
every pass but the first — the same stability flag; in the first pass a frozen instruction or data element is reported
stable by the optimising assembler only.  An item without a mark is the matter of `dispatch_off` and `dispatch_mark`; a
marked item the other assembler recomputes to what the mark keeps (`Good`, `GoodC`).  Hence one pass (`resolveOnce_sim`)
and the loop from the second pass on (`iterLoop_sim_later`).  The whole iteration (`resolveIterativelyN_switch_cases`)
runs in lockstep unless the optimised first pass is stable and the other one is not; then the optimising assembler
confirms that state at once, the other one a pass later, because a stable pass leaves a fixed point
(`corner_resolveOnce`): the outcomes agree but for the pass count (`resolveIterativelyN_switch_outcome`).
-/
namespace Casm

theorem allDefinite_off (H : Nat → Bool) (st : Static) (d : Defs) (ctx : RCtx) (cs : List IMatch) :
    allDefinite (st.withStatic false) (d.unfS H) ctx cs = allDefinite st d ctx cs := by
  rw [allDefinite_congr (SameStatic.withStatic st false) (unfS_view H d)]

theorem dispatch_sim_unmarked (H : Nat → Bool) (st : Static) (d : Defs) (ctx : RCtx) (n : AstNode) (k : Nat)
    (hm : markedS H d n k = false) (hH : ∀ r, H r = true → (d.sym r).resolved = true)
    (hfl : ctx.first = true → ctx.last = false) :
    SimR H ctx.first (dispatch st d ctx n k) (dispatch (st.withStatic false) (d.unfS H) ctx n k) := by
  rw [dispatch_off H st d ctx n k hm]
  rcases dispatch_mark st d ctx n k with he | ⟨hf, ⟨d1, s1, r1⟩, ⟨d2, s2, r2⟩, h1, h2, fz⟩
  · rw [he]; exact simR_of_map H _ _ _ rfl
  · -- a step of the first pass, which is not the last, reports nothing
    have q1 := dispatch_quiet st d d1 ctx (hfl hf) n k s1 r1 h1
    have q2 := dispatch_quiet st d d2 (ctx.setFirst false) (hfl hf) n k s2 r2 h2
    subst q1 q2
    rw [h1, h2]
    refine ⟨s2, congrArg (fun x => Except.ok (x, s2, [])) (fz.unfS H hH).symm, fun hs => ?_, fun h => by rw [hf] at h; cases h⟩
    cases fz with
    | const => exact hs
    | _ => rfl

theorem const_recomputes_off (H : Nat → Bool) (st : Static) (nodes : List AstNode) (d0 d : Defs) (gc : GoodC st nodes d0 d H)
    (l : Nat) (nm : String) (e : Expr) (ne : Bool) (r : Nat) (hmem : AstNode.symbol l nm (.constant e) ne (some r) ∈ nodes)
    (hm : (d.sym r).resolved = true) (hh : H r = false) (ctx : RCtx) :
    resolveConstant (st.withStatic false) (d.unfS H) ctx r e = .ok (d.unfS H, true, []) := by
  obtain ⟨_, v, c, hp, hv⟩ := gc.2 r hm hh l nm e ne hmem
  have hres : ((d.unfS H).sym r).resolved = false := by rw [sym_unfS]; simp [SymDef.keep, hh]
  have hval : v = ((d.unfS H).sym r).value := by rw [sym_unfS]; exact hv.symm
  have hok : SymOK (d.unfS H) r := by
    rcases SymOK_of_resolved d r hm with h | ⟨s, hs⟩
    · exact Or.inl (by rw [unfS_length]; exact h)
    · exact Or.inr ⟨s.keep (H r), by rw [unfS_symbols_getD, hs]; rfl⟩
  rw [resolveConstant_eq, hres, if_neg Bool.false_ne_true, resolverEval_switch st false (unfS_view H d), hp, bind_ok, off_opt,
    Bool.false_and, hval, constantStep_same _ _ hres]
  exact commit_get (symSlot r) _ true [] (setSym_self _ _ hok)

theorem dispatch_sim (H : Nat → Bool) (st : Static) (nodes : List AstNode) (d0 d : Defs)
    (g : Good st nodes d0 d) (gc : GoodC st nodes d0 d H)
    (pre : List AstNode) (n : AstNode) (post : List AstNode) (hsplit : nodes = pre ++ n :: post)
    (ctx : RCtx) (hctx : ctx.symCtx = ctxAfter st [] (pre ++ [n])) (k : Nat) (hk : k < nodeElems n)
    (hfl : ctx.first = true → ctx.last = false) :
    SimR H ctx.first (dispatch st d ctx n k) (dispatch (st.withStatic false) (d.unfS H) ctx n k) := by
  cases hm : markedS H d n k with
  | false => exact dispatch_sim_unmarked H st d ctx n k hm gc.1 hfl
  | true =>
    rw [dispatch_markedS H st d ctx n k hm]
    refine ⟨true, ?_, id, fun _ => rfl⟩
    unfold markedS at hm
    split at hm
    · exact instr_recomputes_off H st nodes d0 d g pre _ _ post hsplit hm ctx hctx
    · exact data_recomputes_off H st nodes d0 d g pre _ _ _ post k hsplit (by simpa [nodeElems] using hk) hm ctx
    next l nm e ne r =>
      rw [Bool.and_eq_true, Bool.not_eq_true'] at hm
      exact const_recomputes_off H st nodes d0 d gc l nm e ne r (by rw [hsplit]; simp) hm.1 hm.2 ctx
    · cases hm

theorem runVisits_goodC (H : Nat → Bool) (st : Static) (nodes : List AstNode) (d0 : Defs) (f : FrontOK st nodes d0)
    (fs : FrontOKS st nodes d0 H) (first last : Bool) {done rest : List Visit} (hs : visits nodes = done ++ rest)
    {d : Defs} {a : PassSt} (hdone : runVisits st first last done (.init d) = .ok a) (g : Good st nodes d0 d)
    (gc : GoodC st nodes d0 d H) (ph : if first = true then st.opts.optStatic = true else K3 nodes d0 d) :
    GoodC st nodes d0 a.defs H :=
  runVisits_inv (I := fun _ a => GoodC st nodes d0 a.defs H) hdone gc fun done' n k rest' a a' hs' hd ih hq => by
    have hv : visits nodes = done' ++ (n, k) :: (rest' ++ rest) := by rw [hs, hs', List.append_assoc]; rfl
    obtain ⟨it, s, r, _, hdp, _⟩ := passNode_inv st first last a a' n k hq
    exact dispatch_goodC st nodes d0 a.defs a'.defs H f fs n (mem_of_visits_eq hv).1 _ k s r
      (runVisits_good st nodes d0 f first last hv hd g ph).1 ih hdp

theorem resolveOnce_sim (H : Nat → Bool) (st : Static) (nodes : List AstNode) (d0 : Defs) (f : FrontOK st nodes d0)
    (fs : FrontOKS st nodes d0 H) (first last : Bool) (hfl : first = true → last = false)
    (d : Defs) (g : Good st nodes d0 d) (gc : GoodC st nodes d0 d H)
    (ph : if first = true then st.opts.optStatic = true else K3 nodes d0 d) :
    match resolveOnce st nodes first last d with
    | .error e => resolveOnce (st.withStatic false) nodes first last (d.unfS H) = .error e
    | .ok (d', s, r) => GoodC st nodes d0 d' H ∧
        ∃ s2, resolveOnce (st.withStatic false) nodes first last (d.unfS H) = .ok (d'.unfS H, s2, r) ∧
          (s2 = true → s = true) ∧ (first = false → s2 = s) := by
  have sim := runVisits_lockstep (st := st) (st' := st.withStatic false) (first := first) (last := last)
    (first' := first) (last' := last) (vs := visits nodes) (a0 := .init d) (b0 := .init (d.unfS H)) (R := SimPS H first)
    (fun a b hR => hR.2.2.2.1) ⟨rfl, rfl, rfl, rfl, id, fun _ => rfl⟩
    fun done n k rest a b hs hd hR => by
      obtain ⟨pre, post, e1, e2, hsc⟩ := visit_ctx hs hd
      exact passNode_sim H (st := st) (st' := st.withStatic false) rfl first last a b n k hR fun ctx hf hl hc =>
        hf ▸ dispatch_sim H st nodes d0 a.defs (runVisits_good st nodes d0 f first last hs hd g ph).1
          (runVisits_goodC H st nodes d0 f fs first last hs hd g gc ph) pre n post e1 ctx (hc.trans hsc) k e2
          (fun h => hl.trans (hfl (hf.symm.trans h)))
  rw [resolveOnce_eq, resolveOnce_eq]
  rcases sim.cases with ⟨e, ha, hb'⟩ | ⟨a', b', ha, hb', h1, _, _, h4, h5, h6⟩ <;> rw [ha, hb']
  · rfl
  · exact ⟨runVisits_goodC H st nodes d0 f fs first last (List.append_nil _).symm ha g gc ph, b'.stable,
      by rw [← h1, ← h4]; rfl, h5, h6⟩

theorem resolveOnce_sim_later (H : Nat → Bool) (st : Static) (nodes : List AstNode) (d0 : Defs) (f : FrontOK st nodes d0)
    (fs : FrontOKS st nodes d0 H) (last : Bool) (d : Defs) (g : Good st nodes d0 d) (gc : GoodC st nodes d0 d H)
    (k3 : K3 nodes d0 d) :
    resolveOnce (st.withStatic false) nodes false last (d.unfS H) = (resolveOnce st nodes false last d).map (usRes H) ∧
    ∀ d' s r, resolveOnce st nodes false last d = .ok (d', s, r) →
      Good st nodes d0 d' ∧ GoodC st nodes d0 d' H ∧ K3 nodes d0 d' := by
  have sim := resolveOnce_sim H st nodes d0 f fs false last (fun h => by cases h) d g gc (by simpa using k3)
  cases hp : resolveOnce st nodes false last d with
  | error e => rw [hp] at sim; exact ⟨sim, fun _ _ _ h => nomatch h⟩
  | ok x =>
    obtain ⟨d', s, r⟩ := x
    rw [hp] at sim
    obtain ⟨gc', s2, e2, _, i2⟩ := sim
    obtain ⟨g', k3'⟩ := resolveOnce_good st nodes d0 f false last d d' s r g (by simpa using k3) hp
    exact ⟨by rw [e2, i2 rfl]; rfl, fun _ _ _ h => by cases h; exact ⟨g', gc', k3'⟩⟩

theorem iterLoop_succ (st : Static) (nodes : List AstNode) {max i : Nat} (hi : i < max) (fuel : Nat) (d : Defs) (rep : List String) :
    iterLoop st nodes max (fuel + 1) i d rep =
      match resolveOnce st nodes (i + 1 == 1) (i + 1 == max) d with
      | .error (msg, r) => .error (rep ++ r ++ [msg])
      | .ok (d', stable, r) =>
        if stable then .ok (i + 1, d', rep ++ r, i + 1 == max)
        else if i + 1 == max then .error (rep ++ r ++ ["did not converge"])
        else iterLoop st nodes max fuel (i + 1) d' (rep ++ r) := by
  rw [iterLoop, if_neg (Nat.not_le.mpr hi)]
  dsimp only
  cases resolveOnce st nodes (i + 1 == 1) (i + 1 == max) d with
  | error e => rfl
  | ok x => cases (i + 1 == max) <;> rfl

def usLoop (H : Nat → Bool) (x : Nat × Defs × List String × Bool) : Nat × Defs × List String × Bool :=
  (x.1, x.2.1.unfS H, x.2.2.1, x.2.2.2)

theorem iterLoop_sim_later (H : Nat → Bool) (st : Static) (nodes : List AstNode) (d0 : Defs) (f : FrontOK st nodes d0)
    (fs : FrontOKS st nodes d0 H) (max : Nat) :
    ∀ (fuel i : Nat) (d : Defs) (rep : List String), 1 ≤ i → Good st nodes d0 d → GoodC st nodes d0 d H → K3 nodes d0 d →
      iterLoop (st.withStatic false) nodes max fuel i (d.unfS H) rep = (iterLoop st nodes max fuel i d rep).map (usLoop H) ∧
      ∀ k d' rep' fin, iterLoop st nodes max fuel i d rep = .ok (k, d', rep', fin) →
        Good st nodes d0 d' ∧ GoodC st nodes d0 d' H ∧ K3 nodes d0 d' := by
  intro fuel
  induction fuel with
  | zero => intro i d rep _ g gc k3; exact ⟨rfl, fun _ _ _ _ h => by cases h; exact ⟨g, gc, k3⟩⟩
  | succ fl ih =>
    intro i d rep hi g gc k3
    by_cases hlt : i < max
    · obtain ⟨e1, inv⟩ := resolveOnce_sim_later H st nodes d0 f fs (i + 1 == max) d g gc k3
      rw [iterLoop_succ _ _ hlt, iterLoop_succ _ _ hlt, show (i + 1 == 1) = false by simp; omega, e1]
      cases hp : resolveOnce st nodes false (i + 1 == max) d with
      | error e => exact ⟨rfl, fun _ _ _ _ h => nomatch h⟩
      | ok x =>
        obtain ⟨d1, s, r⟩ := x
        have inv := inv d1 s r hp
        cases s with
        | true => exact ⟨rfl, fun _ _ _ _ h => by cases h; exact inv⟩
        | false =>
          cases i + 1 == max with
          | true => exact ⟨rfl, fun _ _ _ _ h => nomatch h⟩
          | false => exact ih (i + 1) d1 _ (by omega) inv.1 inv.2.1 inv.2.2
    · simp only [iterLoop, ge_iff_le, Nat.not_lt.mp hlt, if_true]
      exact ⟨rfl, fun _ _ _ _ h => by cases h; exact ⟨g, gc, k3⟩⟩

/-- what `resolve_iteratively` does with the result of its loop -/
def finish (st : Static) (nodes : List AstNode) (x : Except (List String) (Nat × Defs × List String × Bool)) :
    Except (List String) (Nat × Defs × List String) :=
  match x with
  | .error e => .error e
  | .ok (i, defs, rep, true) => .ok (i, defs, rep)
  | .ok (i, defs, rep, false) =>
    match resolveOnce st nodes false true defs with
    | .error (m, r) => .error (rep ++ r ++ [m])
    | .ok (defs', stable, r) =>
      if stable then .ok (i, defs', rep ++ r) else .error (rep ++ r ++ ["did not converge"])

theorem resolveIterativelyN_finish (st : Static) (nodes : List AstNode) (max : Nat) (d : Defs) :
    resolveIterativelyN st nodes max d = finish st nodes (iterLoop st nodes max max 0 d []) := by
  unfold resolveIterativelyN finish
  cases iterLoop st nodes max max 0 d [] with
  | error e => rfl
  | ok x =>
    obtain ⟨i, d1, rep, fin⟩ := x
    cases fin <;> rfl

def usFin (H : Nat → Bool) (x : Nat × Defs × List String) : Nat × Defs × List String := (x.1, x.2.1.unfS H, x.2.2)

theorem finish_sim (H : Nat → Bool) (st : Static) (nodes : List AstNode) (d0 : Defs) (f : FrontOK st nodes d0)
    (fs : FrontOKS st nodes d0 H) (i : Nat) (d : Defs) (rep : List String) (fin : Bool)
    (g : Good st nodes d0 d) (gc : GoodC st nodes d0 d H) (k3 : K3 nodes d0 d) :
    finish (st.withStatic false) nodes (.ok (i, d.unfS H, rep, fin)) = (finish st nodes (.ok (i, d, rep, fin))).map (usFin H) := by
  cases fin with
  | true => rfl
  | false =>
    simp only [finish, (resolveOnce_sim_later H st nodes d0 f fs true d g gc k3).1]
    cases resolveOnce st nodes false true d with
    | error e => rfl
    | ok x => obtain ⟨d1, s, r⟩ := x; cases s <;> rfl

theorem iterLoop_first (st : Static) (nodes : List AstNode) (m : Nat) (d : Defs) :
    iterLoop st nodes (m + 2) (m + 2) 0 d [] =
      match resolveOnce st nodes true false d with
      | .error (msg, r) => .error ([] ++ r ++ [msg])
      | .ok (d', stable, r) =>
        if stable then .ok (1, d', [] ++ r, false) else iterLoop st nodes (m + 2) (m + 1) 1 d' ([] ++ r) := by
  rw [iterLoop_succ st nodes (Nat.succ_pos _), show ((0 + 1 : Nat) == m + 2) = false by simp]
  rfl

theorem resolveIterativelyN_switch_cases (H : Nat → Bool) (st : Static) (nodes : List AstNode) (d0 : Defs)
    (f : FrontOK st nodes d0) (fs : FrontOKS st nodes d0 H) (ho : st.opts.optStatic = true) (m : Nat) :
    resolveIterativelyN (st.withStatic false) nodes (m + 2) (d0.unfS H) =
      (resolveIterativelyN st nodes (m + 2) d0).map (usFin H) ∨
    ∃ d1 r1, resolveOnce st nodes true false d0 = .ok (d1, true, r1) ∧
      resolveOnce (st.withStatic false) nodes true false (d0.unfS H) = .ok (d1.unfS H, false, r1) ∧
      Good st nodes d0 d1 ∧ GoodC st nodes d0 d1 H ∧ K3 nodes d0 d1 := by
  rw [resolveIterativelyN_finish, resolveIterativelyN_finish, iterLoop_first, iterLoop_first]
  have g0 := good_init st nodes d0 f
  have sim := resolveOnce_sim H st nodes d0 f fs true false (fun _ => rfl) d0 g0 (goodC_init st nodes d0 H fs) (by simpa using ho)
  cases hp : resolveOnce st nodes true false d0 with
  | error e => rw [hp] at sim; rw [sim]; exact .inl rfl
  | ok x =>
    obtain ⟨d1, s1, r1⟩ := x
    rw [hp] at sim
    obtain ⟨gc1, s2, e2, i1, _⟩ := sim
    obtain ⟨g1, k31⟩ := resolveOnce_good st nodes d0 f true false d0 d1 s1 r1 g0 (by simpa using ho) hp
    rw [e2]
    cases s2 with
    | true =>
      obtain rfl := i1 rfl
      exact .inl (finish_sim H st nodes d0 f fs 1 d1 _ false g1 gc1 k31)
    | false =>
      cases s1 with
      | true => exact .inr ⟨d1, r1, rfl, rfl, g1, gc1, k31⟩
      | false =>
        left
        simp only [Bool.false_eq_true, if_false]
        obtain ⟨el, inv⟩ := iterLoop_sim_later H st nodes d0 f fs (m + 2) (m + 1) 1 d1 ([] ++ r1) (by omega) g1 gc1 k31
        rw [el]
        cases hl : iterLoop st nodes (m + 2) (m + 1) 1 d1 ([] ++ r1) with
        | error e => rfl
        | ok y =>
          obtain ⟨k, d2, rep2, fin⟩ := y
          obtain ⟨g2, gc2, k32⟩ := inv k d2 rep2 fin hl
          exact finish_sim H st nodes d0 f fs k d2 rep2 fin g2 gc2 k32

theorem resolveIterativelyN_switch_lockstep (H : Nat → Bool) (st : Static) (nodes : List AstNode) (d0 : Defs)
    (f : FrontOK st nodes d0) (fs : FrontOKS st nodes d0 H) (ho : st.opts.optStatic = true) (m : Nat)
    (hagree : ∀ d1 r1, resolveOnce st nodes true false d0 = .ok (d1, true, r1) →
      resolveOnce (st.withStatic false) nodes true false (d0.unfS H) = .ok (d1.unfS H, true, r1)) :
    resolveIterativelyN (st.withStatic false) nodes (m + 2) (d0.unfS H) =
      (resolveIterativelyN st nodes (m + 2) d0).map (usFin H) :=
  (resolveIterativelyN_switch_cases H st nodes d0 f fs ho m).resolve_right fun ⟨d1, r1, hp, e2, _⟩ => by
    rw [hagree d1 r1 hp] at e2; cases e2

theorem resolveIterativelyN_switch_success (H : Nat → Bool) (st : Static) (nodes : List AstNode) (d0 : Defs)
    (f : FrontOK st nodes d0) (fs : FrontOKS st nodes d0 H) (ho : st.opts.optStatic = true) (hwf : NoClash nodes) (m : Nat)
    (k : Nat) (d : Defs) (rep : List String) (h : resolveIterativelyN st nodes (m + 2) d0 = .ok (k, d, rep)) :
    ∃ k', resolveIterativelyN (st.withStatic false) nodes (m + 2) (d0.unfS H) = .ok (k', d.unfS H, rep) := by
  rcases resolveIterativelyN_switch_cases H st nodes d0 f fs ho m with hl | ⟨d1, r1, hp, e2, g1, gc1, k31⟩
  · rw [hl, h]; exact ⟨k, rfl⟩
  · -- the optimising assembler: the first pass, then the confirming one, which changes nothing
    have h' := resolveIterativelyN_sim st nodes (m + 2) d0 k d rep h
    rw [Iter.iterate_eq_run, Iter.run_next _ (m + 1) d0 (by omega),
      show absPass st nodes ⟨0 + 1 == 1, false⟩ d0 = .ok (d1, true) from absPass_ok.mpr ⟨r1, hp⟩] at h'
    obtain ⟨r2, hq⟩ := absPass_ok.mp (Iter.confirm_ok.mp h').2
    obtain rfl : d = d1 := resolveOnce_stable_id st nodes true d1 d r2 hq (pass_establishes_ok st nodes true false d0 d1 true r1 hp hwf)
    -- so `d.unfS H` is a fixed point of the other assembler's strict pass, with the messages `rep`
    have sim2 := resolveOnce_sim_later H st nodes d0 f fs true d g1 gc1 k31
    rw [resolveIterativelyN_rep st nodes (m + 2) (by omega) hwf d0 k d rep h] at sim2
    -- which it reaches in its first pass and where it stays
    obtain ⟨k', hk'⟩ : ∃ k', Iter.iterate (absPass (st.withStatic false) nodes) (m + 2) (d0.unfS H) = .ok (k', d.unfS H) := by
      rw [Iter.iterate_eq_run, Iter.run_next _ (m + 1) _ (by omega),
        show absPass (st.withStatic false) nodes ⟨0 + 1 == 1, false⟩ (d0.unfS H) = .ok (d.unfS H, false) from absPass_ok.mpr ⟨r1, e2⟩]
      exact Iter.run_from_fix (absPass_laws (st.withStatic false) nodes hwf) (m + 2) (absPass_ok.mpr ⟨rep, sim2.1⟩) (m + 1) 1
        (Nat.le_refl 1) (by omega)
    obtain ⟨rep', hr'⟩ := resolveIterativelyN_abs.mp hk'
    have hfix := resolveIterativelyN_rep (st.withStatic false) nodes (m + 2) (by omega) hwf _ k' _ rep' hr'
    rw [sim2.1] at hfix
    cases hfix
    exact ⟨k', hr'⟩

def dropK (x : Nat × Defs × List String) : Defs × List String := (x.2.1, x.2.2)

theorem finish_dropK (st : Static) (nodes : List AstNode) (i j : Nat) (d : Defs) (rep : List String) :
    (finish st nodes (.ok (i, d, rep, false))).map dropK = (finish st nodes (.ok (j, d, rep, false))).map dropK := by
  simp only [finish]
  cases resolveOnce st nodes false true d with
  | error e => obtain ⟨m, r⟩ := e; rfl
  | ok x =>
    obtain ⟨d', s, r⟩ := x
    cases s <;> rfl

theorem finish_iterLoop_fix (st : Static) (nodes : List AstNode) {max i : Nat} (h1 : 1 ≤ i) (hi : i < max) (fuel : Nat) (d : Defs)
    (rep : List String) (hfix : resolveOnce st nodes false false d = .ok (d, true, [])) :
    finish st nodes (iterLoop st nodes max (fuel + 1) i d rep) = finish st nodes (.ok (i + 1, d, rep, false)) := by
  rw [iterLoop_succ st nodes hi, show (i + 1 == 1) = false by simp; omega]
  cases i + 1 == max with
  | false => simp only [hfix, if_true, List.append_nil]
  | true =>
    -- it is the last pass of the loop: the strict pass, that is the confirming pass
    simp only [finish]
    cases resolveOnce st nodes false true d with
    | error e => rfl
    | ok x => obtain ⟨d', s, r⟩ := x; cases s <;> rfl

/-- C08 for the static switch, at the level of the iteration: only the iteration count may differ, by the one pass the
    unoptimised assembler needs more when the optimised first pass is already stable -/
theorem resolveIterativelyN_switch_outcome (H : Nat → Bool) (st : Static) (nodes : List AstNode) (d0 : Defs)
    (f : FrontOK st nodes d0) (fs : FrontOKS st nodes d0 H) (ho : st.opts.optStatic = true) (hwf : NoClash nodes)
    (u : Uniq nodes) (hok0 : NodesOK d0 nodes) (m : Nat) :
    (resolveIterativelyN (st.withStatic false) nodes (m + 2) (d0.unfS H)).map dropK =
      ((resolveIterativelyN st nodes (m + 2) d0).map (usFin H)).map dropK := by
  rcases resolveIterativelyN_switch_cases H st nodes d0 f fs ho m with hl | ⟨d1, r1, hp, e2, g1, gc1, k31⟩
  · rw [hl]
  · -- the optimising assembler confirms `d1` at once; the other one after its second pass, which changes nothing
    have sim2 := resolveOnce_sim_later H st nodes d0 f fs false d1 g1 gc1 k31
    rw [corner_resolveOnce st true nodes hwf u d0 d1 r1 hok0 hp] at sim2
    rw [resolveIterativelyN_finish, resolveIterativelyN_finish, iterLoop_first, iterLoop_first, hp, e2]
    simp only [if_true, Bool.false_eq_true, if_false]
    rw [← finish_sim H st nodes d0 f fs 1 d1 _ false g1 gc1 k31,
      finish_iterLoop_fix (st.withStatic false) nodes (Nat.le_refl 1) (by omega) m (d1.unfS H) _ sim2.1]
    exact finish_dropK (st.withStatic false) nodes 2 1 (d1.unfS H) ([] ++ r1)

end Casm
