import Casm.Proofs.UnfreezeS
import Casm.Proofs.StableId
/-!
# Casm.Proofs.RecomputeS — a fixed point with first-pass marks cleared

Two runs of a pass side by side: the second works on the state of the first with the marks cleared; its static
part `st'` may differ in the switches (the declarations are the same).  `SimR` relates the results of one step,
`SimPS` the two pass states, and `passNode_sim` carries `SimPS` through a visit whose steps are related by `SimR`.
This is used here with `st' = st`, and `Casm.Proofs.SwitchSim` is built on it with the static switch off in `st'`;
for that case the stability flags need agree only from the second pass on.

If the final state is a fixed point of the strict pass as the code runs it (marked items are
skipped), and every marked item recomputes to its stored value, then the state with the marks of
instructions, data elements and the symbols outside `H` cleared (`Defs.unfS H`) is a fixed point
too: recomputing *everything* from the final values reproduces it (`resolveOnce_us`).
`resolveOnce_uf` is the case `H = fun _ => true`, `Defs.unfreeze`.
-/
namespace Casm

/-- the flags agree but for the first pass: there the second step may report a change that the first does not -/
def SimR (H : Nat → Bool) (first : Bool) (on off : ItemRes) : Prop :=
  match on with
  | .error e => off = .error e
  | .ok (d1, s1, r1) => ∃ s2, off = .ok (d1.unfS H, s2, r1) ∧ (s2 = true → s1 = true) ∧ (first = false → s2 = s1)

theorem simR_of_map (H : Nat → Bool) (first : Bool) (on off : ItemRes) (h : off = on.map (usRes H)) : SimR H first on off := by
  subst h
  cases on with
  | error e => rfl
  | ok x => obtain ⟨d1, s1, r1⟩ := x; exact ⟨s1, rfl, id, fun _ => rfl⟩

def SimPS (H : Nat → Bool) (first : Bool) (a b : PassSt) : Prop :=
  b.defs = a.defs.unfS H ∧ b.it = a.it ∧ b.symCtx = a.symCtx ∧ b.reported = a.reported ∧
    (b.stable = true → a.stable = true) ∧ (first = false → b.stable = a.stable)

theorem passNode_sim (H : Nat → Bool) {st st' : Static} (hst : st'.decls = st.decls) (first last : Bool) (a b : PassSt)
    (n : AstNode) (k : Nat) (hsim : SimPS H first a b)
    (hd : ∀ ctx : RCtx, ctx.first = first → ctx.last = last → ctx.symCtx = stepCtx st a.symCtx n →
      SimR H first (dispatch st a.defs ctx n k) (dispatch st' (a.defs.unfS H) ctx n k)) :
    ExRel (SimPS H first) (passNode st first last a n k) (passNode st' first last b n k) := by
  obtain ⟨bd, bi, bs, bst, br⟩ := b
  obtain ⟨rfl, rfl, rfl, rfl, h5, h6⟩ := hsim
  have hb : ∀ d : Defs, (d.unfS H).banks = d.banks := fun _ => rfl
  rw [passNode_eq', passNode_eq']
  -- the layout item and the symbol context of a node read the declarations, and no mark
  simp only [show ∀ d, nodeItem st' d n k = nodeItem st d n k from fun _ => by simp only [nodeItem, hst],
    show stepCtx st' a.symCtx n = stepCtx st a.symCtx n by simp only [stepCtx, hst], nodeItem_us H, hb]
  cases visit a.defs.banks a.it (nodeItem st a.defs n k) with
  | error e => rfl
  | ok it =>
    simp only
    have sim := hd ⟨first, last, stepCtx st a.symCtx n, it.bank, it.pos⟩ rfl rfl rfl
    cases hdp : dispatch st a.defs ⟨first, last, stepCtx st a.symCtx n, it.bank, it.pos⟩ n k with
    | error m => rw [hdp] at sim; simp only [show dispatch _ _ _ _ _ = _ from sim]; exact rfl
    | ok x =>
      obtain ⟨d1, s1, r1⟩ := x
      rw [hdp] at sim
      obtain ⟨s2, e2, i1, i2⟩ := sim
      simp only [e2, nodeItem_us H, hb]
      cases advance d1.banks it (nodeItem st d1 n k) with
      | error e => rfl
      | ok it' =>
        refine ⟨_, rfl, rfl, rfl, rfl, rfl, fun hh => ?_, fun hf => ?_⟩
        · rw [Bool.and_eq_true] at hh ⊢
          exact ⟨h5 hh.1, i1 hh.2⟩
        · show (bst && s2) = (a.stable && s1)
          rw [show bst = a.stable from h6 hf, i2 hf]

def RecomputesAllS (H : Nat → Bool) (st : Static) (d : Defs) (sc : List String) (nodes : List AstNode) : Prop :=
  ∀ pre n post k, nodes = pre ++ n :: post → k < nodeElems n → markedS H d n k = true →
    ∀ ctx : RCtx, ctx.first = false → ctx.symCtx = ctxAfter st sc (pre ++ [n]) →
      dispatch st (d.unfS H) ctx n k = .ok ((d.unfS H), true, [])

theorem resolveOnce_us (H : Nat → Bool) (st : Static) (nodes : List AstNode) (last : Bool) (d : Defs) (rep : List String)
    (h : resolveOnce st nodes false last d = .ok (d, true, rep)) (hok : NodesOK d nodes)
    (hrec : RecomputesAllS H st d [] nodes) :
    resolveOnce st nodes false last (d.unfS H) = .ok ((d.unfS H), true, rep) := by
  obtain ⟨ps, hp, hd, hs, hr⟩ := resolveOnce_ok.mp h
  obtain ⟨b1, hb, f1, _, _, f4, _, f6⟩ := runVisits_sim (R := SimPS H false) (b0 := .init (d.unfS H)) hp
    ⟨rfl, rfl, rfl, rfl, id, fun _ => rfl⟩
    fun done n k rest a a' b hsplit hdone hq hrest hR => by
      -- the run is stable, so up to here it has not changed the state
      have hda : a.defs = d := runVisits_id hdone
        (passNode_stable_mono _ _ _ _ _ _ _ hq (runVisits_stable_mono hrest hs))
        fun v hv => hok _ (mem_visits.mp (hsplit ▸ List.mem_append_left _ hv)).1
      obtain ⟨pre, post, e1, e2, hsc⟩ := visit_ctx hsplit hdone
      have sim := passNode_sim H (st := st) (st' := st) rfl false last a b n k hR fun ctx hf _ hc => by
        rw [hda]
        -- a marked item is skipped by the one step and recomputed by the other
        cases hm : markedS H d n k with
        | false => exact simR_of_map H _ _ _ (dispatch_us H st d ctx n k hm hf)
        | true =>
          rw [dispatch_markedS H st d ctx n k hm, hrec pre n post k e1 e2 hm ctx hf (hc.trans hsc)]
          exact ⟨true, rfl, id, fun _ => rfl⟩
      rwa [hq] at sim
  exact resolveOnce_ok.mpr ⟨b1, hb, by rw [f1, hd], (f6 rfl).trans hs, f4.trans hr⟩

-- `markedS H` where `H` is true everywhere (`markedS_true`): `Defs.unfreeze` clears no symbol's mark
def marked (d : Defs) : AstNode → Nat → Bool
  | .instr _ (some ref), _ => (d.instrs.getD ref default).resolved
  | .data _ _ refs, k => (d.datas.getD (refs.getD k 0) default).resolved
  | _, _ => false

def RecomputesAll (st : Static) (d : Defs) (sc : List String) (nodes : List AstNode) : Prop :=
  ∀ pre n post k, nodes = pre ++ n :: post → k < nodeElems n → marked d n k = true →
    ∀ ctx : RCtx, ctx.first = false → ctx.symCtx = ctxAfter st sc (pre ++ [n]) →
      dispatch st d.unfreeze ctx n k = .ok (d.unfreeze, true, [])

theorem markedS_true (d : Defs) (n : AstNode) (k : Nat) : markedS (fun _ => true) d n k = marked d n k := by
  unfold markedS marked
  split <;> simp

theorem resolveOnce_uf (st : Static) (nodes : List AstNode) (last : Bool) (d : Defs) (rep : List String)
    (h : resolveOnce st nodes false last d = .ok (d, true, rep)) (hok : NodesOK d nodes)
    (hrec : RecomputesAll st d [] nodes) :
    resolveOnce st nodes false last d.unfreeze = .ok (d.unfreeze, true, rep) := by
  have := resolveOnce_us (fun _ => true) st nodes last d rep h hok
    (fun pre n post k e hk hm => by rw [unfS_true]; exact hrec pre n post k e hk (by rw [← markedS_true]; exact hm))
  rwa [unfS_true] at this

end Casm
