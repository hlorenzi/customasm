import Casm.Proofs.Frozen
import Casm.Proofs.KindInv
import Casm.Proofs.EvalSimple
/-!
# Casm.Proofs.FrontInv — what the front end guarantees about symbol nodes

Through the declaration loop, `define_remaining` and `match_all`: a reference denotes one symbol node
(`SymFun`); the slot of every symbol node exists; labels have no value yet; the flag of a constant is
the analysis of its expression; a constant marked by the static-value optimisation only holds the
value of its (statically known) expression (`FInv`).  The results are `frontEnd_nodesOK` and `frontEnd_frontOKS`.
-/
namespace Casm

def SymFun (l : List AstNode) : Prop := ∀ a ∈ l, ∀ b ∈ l, ∀ r, symRef a = some r → symRef b = some r → a = b

def RefSub (out nodes : List AstNode) : Prop := ∀ n ∈ out, (symRef n).isSome = true → n ∈ nodes

theorem RefSub.refl (l : List AstNode) : RefSub l l := fun _ h _ => h

theorem SymFun.sub {out nodes : List AstNode} (h : SymFun nodes) (hs : RefSub out nodes) : SymFun out :=
  fun a ha b hb r h1 h2 => h a (hs a ha (by rw [h1]; rfl)) b (hs b hb (by rw [h2]; rfl)) r h1 h2

theorem RefSub.forall {out nodes : List AstNode} (hs : RefSub out nodes) {Q : AstNode → Prop} (h0 : ∀ n, symRef n = none → Q n)
    (h : ∀ n ∈ nodes, Q n) : ∀ n ∈ out, Q n := fun n hn => by
  cases hr : symRef n with
  | none => exact h0 n hr
  | some r => exact h n (hs n hn (by rw [hr]; rfl))

theorem RefSub.of_mem {out nodes : List AstNode} (h : ∀ x ∈ out, x ∈ nodes ∨ symRef x = none) : RefSub out nodes :=
  fun x hx hr => (h x hx).elim id fun hn => by rw [hn] at hr; cases hr

theorem resolveIfs_refSub {d : Decls} {defs : Defs} {nodes out : List AstNode} {k : Nat}
    (h : resolveIfs d defs nodes = .ok (out, k)) : RefSub out nodes :=
  .of_mem fun x hx => (C16.resolveIfs_mem h x hx).imp_right fun ⟨y, e⟩ => e ▸ symRef_fresh y

theorem defineRemaining_refSub {d : Decls} {defs defs' : Defs} {nodes nodes' : List AstNode}
    (h : defineRemaining d defs nodes = .ok (defs', nodes')) : RefSub nodes' nodes :=
  .of_mem fun x hx => ((defineRemaining_frame h).2 x hx).imp_right symRef_item

theorem symFun_replace_same (pre post : List AstNode) (n : AstNode) (h : SymFun (pre ++ n :: post)) : SymFun (pre ++ n :: post) := h

def notDefined (opts : Opts) (d : Decls) (r : Nat) : Bool :=
  (opts.defines.find? (·.1 == (d.symbols.decls.getD r default).name)).isNone

theorem notDefined_iff {opts : Opts} {d : Decls} {r : Nat} :
    notDefined opts d r = true ↔ opts.defines.find? (·.1 == (d.symbols.decls.getD r default).name) = none :=
  Option.isNone_iff_eq_none

theorem notDefined_of_some {opts : Opts} {d : Decls} {r : Nat} {dv : String × Value}
    (h : opts.defines.find? (·.1 == (d.symbols.decls.getD r default).name) = some dv) : notDefined opts d r = false := by
  rw [notDefined, h]; rfl

theorem notDefined_ext (opts : Opts) {d d' : Decls} (h : DeclExt d.symbols d'.symbols) {r : Nat} (hr : r < d.symbols.decls.length) :
    notDefined opts d' r = notDefined opts d r := by
  rw [notDefined, h.name hr]; rfl

def kindOf (d : Decls) (r : Nat) : DeclKind := (d.symbols.decls.getD r default).kind

theorem markedByBoth_resolved {st : Static} {d0 : Defs} {r : Nat} (h : markedByBoth st d0 r = true) : (d0.sym r).resolved = true :=
  (Bool.and_eq_true_iff.1 h).1

/-- a mark that the optimisation alone sets is the mark of a flagged constant that no define names -/
theorem markedByBoth_eq_false {st : Static} {d0 : Defs} {r : Nat} (hr : (d0.sym r).resolved = true) :
    markedByBoth st d0 r = false ↔ (d0.sym r).known = true ∧ kindOf st.decls r = .constant ∧ notDefined st.opts st.decls r = true := by
  simp only [markedByBoth, hr, Bool.true_and, Bool.not_eq_false', Bool.and_eq_true, beq_iff_eq, and_assoc, kindOf, notDefined]

-- What `FInv` says of one node.  A label has no value yet.  A constant that has a slot is flagged as the analysis of its
-- expression says; if it is marked, flagged and named by no define, the mark is the static-value optimisation's alone, and
-- then it holds a definite value that `eval_simple` gives its expression in every state.
def NI (opts : Opts) (d : Decls) (defs : Defs) (n : AstNode) : Prop :=
  match n with
  | .symbol _ _ .label _ (some r) => (defs.sym r).value = .unknown
  | .symbol _ _ (.constant e) _ (some r) =>
    ((defs.symbols.getD r none).isSome = true → (defs.sym r).known = staticallyKnown pureP e) ∧
    ((defs.sym r).resolved = true → (defs.sym r).known = true → notDefined opts d r = true →
      (defs.sym r).value ≠ .unknown ∧ ∀ d' defs', evalSimple d' defs' e = .ok (defs.sym r).value)
  | _ => True

structure FInv (opts : Opts) (d : Decls) (defs : Defs) (nodes : List AstNode) : Prop where
  kinv : KInv d.symbols nodes
  fn : SymFun nodes
  s0 : ∀ r, (defs.symbols.getD r none).isSome = true → r < d.symbols.decls.length
  ni : ∀ n ∈ nodes, NI opts d defs n

def SlotsOK (defs : Defs) (nodes : List AstNode) : Prop :=
  ∀ n ∈ nodes, ∀ r, symRef n = some r → (defs.symbols.getD r none).isSome = true

theorem NI_noref (opts : Opts) (d : Decls) (defs : Defs) {n : AstNode} (h : symRef n = none) : NI opts d defs n := by
  cases n with
  | symbol l nm kd ne rr =>
    cases rr with
    | none => cases kd <;> trivial
    | some r => cases h
  | _ => trivial

theorem NI_noslot (opts : Opts) (d : Decls) {defs : Defs} {n : AstNode} {r : Nat} (hr : symRef n = some r)
    (hs : (defs.symbols.getD r none).isSome = false) : NI opts d defs n := by
  obtain ⟨_, _, kd, _, rfl⟩ := symRef_eq_some.1 hr
  cases kd with
  | label => simp only [NI, sym_of_noslot defs r hs]
  | constant e => simp only [NI, sym_of_noslot defs r hs, hs]; exact ⟨nofun, nofun⟩

theorem NI_congr (opts : Opts) {d d' : Decls} {defs defs' : Defs} {n : AstNode}
    (hd : ∀ r, symRef n = some r → notDefined opts d' r = notDefined opts d r)
    (h : ∀ r, symRef n = some r → defs'.sym r = defs.sym r ∧ (defs'.symbols.getD r none).isSome = (defs.symbols.getD r none).isSome)
    (hn : NI opts d defs n) : NI opts d' defs' n := by
  cases hr : symRef n with
  | none => exact NI_noref opts d' defs' hr
  | some r =>
    obtain ⟨_, _, kd, _, rfl⟩ := symRef_eq_some.1 hr
    obtain ⟨h1, h2⟩ := h r rfl
    cases kd with
    | label => simp only [NI, h1] at hn ⊢; exact hn
    | constant e => simp only [NI, h1, h2, hd r rfl] at hn ⊢; exact hn

theorem KN.lt {m : SymMgr} {n : AstNode} {r : Nat} (hk : KN m n) (hr : symRef n = some r) : r < m.decls.length := by
  obtain ⟨_, _, _, _, rfl⟩ := symRef_eq_some.1 hr
  exact hk.1

theorem FInv.noslot {opts : Opts} {d : Decls} {defs : Defs} {nodes : List AstNode} (f : FInv opts d defs nodes) :
    (defs.symbols.getD d.symbols.decls.length none).isSome = false :=
  Bool.eq_false_iff.mpr fun hs => Nat.lt_irrefl _ (f.s0 _ hs)

/-- an old node keeps the name of its declaration, a new reference is beyond the old table, where there is no slot yet -/
theorem FInv.declStep {opts : Opts} {d d' : Decls} {defs : Defs} {pre post : List AstNode} {n n' : AstNode}
    (f : FInv opts d defs (pre ++ n :: post)) (h : DeclStep d n d' n') : FInv opts d' defs (pre ++ n' :: post) := by
  have lt : ∀ x r, x ∈ pre ++ n :: post → symRef x = some r → r < d.symbols.decls.length := fun x r hx hr => (f.kinv x hx).lt hr
  -- the new reference is the reference of no old node
  have new : ∀ {x y r}, x ∈ pre ++ n :: post → symRef x = some r → symRef y = some r →
      (symRef y = none ∨ symRef y = some d.symbols.decls.length) → False := fun hx hr hr' hy => by
    rcases hy with e | e <;> rw [e] at hr'
    · cases hr'
    · cases hr'; exact Nat.lt_irrefl _ (lt _ _ hx hr)
  refine ⟨f.kinv.declStep h, fun a ha b hb r h1 h2 => ?_, fun r hr => Nat.lt_of_lt_of_le (f.s0 r hr) h.ext.1, fun x hx => ?_⟩
  · rcases h.mem ha with oa | ⟨rfl, na⟩ <;> rcases h.mem hb with ob | ⟨rfl, nb⟩
    · exact f.fn a oa b ob r h1 h2
    · exact (new oa h1 h2 nb).elim
    · exact (new ob h2 h1 na).elim
    · rfl
  · rcases h.mem hx with hx | ⟨rfl, hr | hr⟩
    · exact NI_congr opts (fun r' hr' => notDefined_ext opts h.ext (lt x r' hx hr')) (fun _ _ => ⟨rfl, rfl⟩) (f.ni x hx)
    · exact NI_noref opts d' defs hr
    · exact NI_noslot opts d' hr f.noslot

theorem FInv.collect {opts : Opts} {d d' : Decls} {defs : Defs} {nodes nodes' : List AstNode} (f : FInv opts d defs nodes)
    (h : collectAll d nodes = .ok (d', nodes')) : FInv opts d' defs nodes' :=
  (collectAll_steps h).inv (P := fun d l => FInv opts d defs l) FInv.declStep f

theorem FInv.set {opts : Opts} {d : Decls} {defs defs' : Defs} {nodes : List AstNode} (f : FInv opts d defs nodes) (r : Nat) (s : SymDef)
    (hx : SlotSet defs defs' r s) (hlt : r < d.symbols.decls.length) (hni : ∀ n ∈ nodes, symRef n = some r → NI opts d defs' n) :
    FInv opts d defs' nodes := by
  have hoth : ∀ r', r' ≠ r → defs'.sym r' = defs.sym r' ∧ (defs'.symbols.getD r' none).isSome = (defs.symbols.getD r' none).isSome :=
    fun r' h => ⟨by rw [hx.sym, if_neg h], by rw [hx, if_neg h]⟩
  refine ⟨f.kinv, f.fn, fun r' hr' => ?_, fun n hn => ?_⟩
  · by_cases he : r' = r
    · exact he ▸ hlt
    · exact f.s0 r' ((hoth r' he).2 ▸ hr')
  · by_cases hr : symRef n = some r
    · exact hni n hn hr
    · exact NI_congr opts (fun _ _ => rfl) (fun r' hr' => hoth r' (fun he => hr (he ▸ hr'))) (f.ni n hn)

theorem FInv.defineStep {opts : Opts} {d : Decls} {defs : Defs} {nodes : List AstNode} (f : FInv opts d defs nodes)
    {n : AstNode} (hn : n ∈ nodes) :
    FInv opts d (Casm.defineStep defs n) nodes ∧
      (∀ r, symRef n = some r → ((Casm.defineStep defs n).symbols.getD r none).isSome = true) ∧
      (∀ r, (defs.symbols.getD r none).isSome = true → ((Casm.defineStep defs n).symbols.getD r none).isSome = true) := by
  rcases defineStep_spec defs n with ⟨heq, hs⟩ | ⟨lv, nm, kind, ne, r, known, rfl, hno, hc, hl, heq⟩ <;> rw [heq]
  · exact ⟨f, hs, fun _ h => h⟩
  · refine ⟨f.set r _ (slot_padset _ r · _) (f.kinv _ hn).1 (fun m hm hr => ?_), fun r' hr' => ?_, fun r' hr' => ?_⟩
    · cases f.fn m hm _ hn r hr rfl
      cases kind with
      | label => simp only [NI, sym_padset, if_true]
      | constant e => simp only [NI, sym_padset, slot_padset, if_true]; exact ⟨fun _ => hc e rfl, fun h => (nomatch h)⟩
    · cases hr'; simp only [slot_padset, if_true]; rfl
    · rw [slot_padset]
      by_cases he : r' = r
      · rw [if_pos he]; rfl
      · rw [if_neg he]; exact hr'

theorem FInv.define {opts : Opts} {d : Decls} {nodes : List AstNode} :
    ∀ (l : List AstNode) (defs : Defs), (∀ n ∈ l, n ∈ nodes) → FInv opts d defs nodes →
      FInv opts d (defineSymbols defs l) nodes ∧
      (∀ n ∈ l, ∀ r, symRef n = some r → ((defineSymbols defs l).symbols.getD r none).isSome = true) ∧
      (∀ r, (defs.symbols.getD r none).isSome = true → ((defineSymbols defs l).symbols.getD r none).isSome = true) := by
  intro l
  induction l with
  | nil => intro defs _ f; exact ⟨f, fun _ hn => (nomatch hn), fun _ h => h⟩
  | cons n rest ih =>
    intro defs hsub f
    obtain ⟨f1, s1, m1⟩ := f.defineStep (hsub n List.mem_cons_self)
    obtain ⟨f2, s2, m2⟩ := ih (Casm.defineStep defs n) (fun m hm => hsub m (List.mem_cons_of_mem _ hm)) f1
    refine ⟨f2, fun m hm r hr => ?_, fun r hr => m2 r (m1 r hr)⟩
    rcases List.mem_cons.mp hm with rfl | hm
    · exact m2 r (s1 r hr)
    · exact s2 m hm r hr

theorem FInv.defineAll {opts : Opts} {d : Decls} {defs : Defs} {nodes : List AstNode} (f : FInv opts d defs nodes) :
    FInv opts d (defineSymbols defs nodes) nodes ∧ SlotsOK (defineSymbols defs nodes) nodes :=
  have ⟨f2, s2, _⟩ := FInv.define nodes defs (fun _ hn => hn) f
  ⟨f2, s2⟩

theorem FInv.write {opts : Opts} {d : Decls} {defs : Defs} {nodes : List AstNode} (f : FInv opts d defs nodes) (hs : SlotsOK defs nodes)
    {lv : Nat} {nm : String} {e : Expr} {ne : Bool} {r : Nat} (hn : AstNode.symbol lv nm (.constant e) ne (some r) ∈ nodes)
    (s' : SymDef) (hni : NI opts d (defs.setSym r s') (.symbol lv nm (.constant e) ne (some r))) :
    FInv opts d (defs.setSym r s') nodes ∧ SlotsOK (defs.setSym r s') nodes :=
  ⟨f.set r s' (slot_setSym_eq defs r s' (hs _ hn r rfl)) (f.kinv _ hn).1 fun m hm hr => by cases f.fn m hm _ hn r hr rfl; exact hni,
   fun m hm r' hr' => by rw [slot_setSym defs r r' s' (hs _ hn r rfl)]; exact hs m hm r' hr'⟩

theorem FInv.step_def {opts : Opts} {d : Decls} {x : Defs} {nodes : List AstNode} (fx : FInv opts d x nodes) (sx : SlotsOK x nodes)
    {lv : Nat} {nm : String} {e : Expr} {ne : Bool} {r : Nat} {dv : String × Value}
    (hn : AstNode.symbol lv nm (.constant e) ne (some r) ∈ nodes)
    (hfind : opts.defines.find? (·.1 == (d.symbols.decls.getD r default).name) = some dv) :
    FInv opts d (x.setSym r { x.sym r with value := dv.2, resolved := true }) nodes ∧
      SlotsOK (x.setSym r { x.sym r with value := dv.2, resolved := true }) nodes := by
  have hslot := sx _ hn r rfl
  refine fx.write sx hn _ ?_
  simp only [NI, sym_setSym_self x r _ hslot, slot_setSym x r r _ hslot]
  exact ⟨(fx.ni _ hn).1, fun _ _ hnd => nomatch hnd.symm.trans (notDefined_of_some hfind)⟩

theorem FInv.step_ev {opts : Opts} {d : Decls} {x : Defs} {nodes : List AstNode} (fx : FInv opts d x nodes) (sx : SlotsOK x nodes)
    {lv : Nat} {nm : String} {e : Expr} {ne : Bool} {r : Nat} {v : Value}
    (hn : AstNode.symbol lv nm (.constant e) ne (some r) ∈ nodes) (hres : (x.sym r).resolved = false)
    (hev : evalSimple d x e = .ok v) :
    FInv opts d (x.setSym r (writeOf opts (x.sym r) v)) nodes ∧ SlotsOK (x.setSym r (writeOf opts (x.sym r) v)) nodes := by
  have hslot := sx _ hn r rfl
  refine fx.write sx hn _ ?_
  simp only [NI, sym_setSym_self x r _ hslot, slot_setSym x r r _ hslot, writeOf_known, writeOf_value]
  refine ⟨(fx.ni _ hn).1, fun hr hk _ => ?_⟩
  -- marked by this write: the optimisation is on, the symbol flagged, the value definite
  simp only [writeOf_eq, hres, Bool.false_or, Bool.and_eq_true, bne_iff_ne] at hr
  have hpure : staticallyKnown pureP e = true := by rw [← (fx.ni _ hn).1 hslot]; exact hk
  exact ⟨hr.2, fun d' defs'' => by rw [evalSimple_indep d d' x defs'' e hpure]; exact hev⟩

theorem FInv.consts {opts : Opts} {d : Decls} {defs defs' : Defs} {nodes : List AstNode} {c : Nat}
    (f : FInv opts d defs nodes) (hs : SlotsOK defs nodes)
    (h : resolveConstantsSimple opts d defs nodes = .ok (defs', c)) : FInv opts d defs' nodes ∧ SlotsOK defs' nodes :=
  resolveConstantsSimple_ind opts d (fun x => FInv opts d x nodes ∧ SlotsOK x nodes)
    (fun hn hp _ hfind => hp.1.step_def hp.2 hn hfind) (fun hn hp hres _ hev => hp.1.step_ev hp.2 hn hres hev) ⟨f, hs⟩ h

theorem FInv.sub {opts : Opts} {d : Decls} {defs : Defs} {nodes out : List AstNode} (f : FInv opts d defs nodes)
    (hk : KInv d.symbols out) (hs : RefSub out nodes) : FInv opts d defs out :=
  ⟨hk, f.fn.sub hs, f.s0, hs.forall (fun _ => NI_noref opts d defs) f.ni⟩

theorem SlotsOK.sub {defs : Defs} {nodes out : List AstNode} (h : SlotsOK defs nodes) (hs : RefSub out nodes) : SlotsOK defs out :=
  fun n hn r hr => h n (hs n hn (by rw [hr]; rfl)) r hr

theorem FInv.round {opts : Opts} {d defs nodes d1 n1 defs2 cnt nodes2 ifs} (r : Round opts d defs nodes d1 n1 defs2 cnt nodes2 ifs)
    (f : FInv opts d defs nodes) : FInv opts d1 defs2 nodes2 ∧ SlotsOK defs2 nodes2 := by
  obtain ⟨f2, s2⟩ := (f.collect r.collect).defineAll
  obtain ⟨f3, s3⟩ := f2.consts s2 r.consts
  have hsub := resolveIfs_refSub r.ifs
  exact ⟨f3.sub (resolveIfs_kinv f3.kinv r.ifs) hsub, s3.sub hsub⟩

theorem FInv.symbols_congr {opts : Opts} {d : Decls} {defs defs' : Defs} {nodes : List AstNode} (h : defs'.symbols = defs.symbols)
    (f : FInv opts d defs nodes) : FInv opts d defs' nodes :=
  ⟨f.kinv, f.fn, fun r hr => f.s0 r (by rw [h] at hr; exact hr),
   fun n hn => NI_congr opts (fun _ _ => rfl) (fun r _ => ⟨sym_of_symbols_eq h r, by rw [h]⟩) (f.ni n hn)⟩

theorem SlotsOK.symbols_congr {defs defs' : Defs} {nodes : List AstNode} (h : defs'.symbols = defs.symbols)
    (s : SlotsOK defs nodes) : SlotsOK defs' nodes := fun n hn r hr => by rw [h]; exact s n hn r hr

/-- the function symbols are defined beside the symbol nodes' slots: no symbol node refers to a function declaration -/
theorem defineRemaining_finv {opts : Opts} {d : Decls} {defs defs' : Defs} {nodes nodes' : List AstNode}
    (f : FInv opts d defs nodes) (sl : SlotsOK defs nodes) (h : defineRemaining d defs nodes = .ok (defs', nodes')) :
    FInv opts d defs' nodes' ∧ SlotsOK defs' nodes' := by
  have hsub := defineRemaining_refSub h
  suffices key : FInv opts d defs' nodes ∧ SlotsOK defs' nodes from
    ⟨key.1.sub (defineRemaining_kinv f.kinv h) hsub, key.2.sub hsub⟩
  refine defineRemaining_ind (fun x => FInv opts d x nodes ∧ SlotsOK x nodes) (fun x nm ps body r idx hn hx => ?_)
    (fun _ _ e hx => ⟨hx.1.symbols_congr e, hx.2.symbols_congr e⟩) ⟨f, sl⟩ h
  have hkn : r < d.symbols.decls.length ∧ (d.symbols.decls.getD r default).kind = .function := f.kinv _ hn
  refine ⟨hx.1.set r _ (slot_padset _ r · _) hkn.1 (fun m hm hr => ?_), fun m hm r' hr' => ?_⟩
  · obtain ⟨_, _, k, _, rfl⟩ := symRef_eq_some.1 hr
    have := (f.kinv _ hm).2
    rw [hkn.2] at this
    cases k <;> cases this
  · rw [slot_padset]
    by_cases he : r' = r
    · rw [if_pos he]; rfl
    · rw [if_neg he]; exact hx.2 m hm r' hr'

theorem FInv.init (opts : Opts) (d : Decls) (parsed : List AstNode) :
    FInv opts d {} (parsed.map AstNode.fresh) ∧ SlotsOK {} (parsed.map AstNode.fresh) := by
  have hfresh : ∀ x ∈ parsed.map AstNode.fresh, symRef x = none := fun x hx => by
    obtain ⟨y, _, rfl⟩ := List.mem_map.mp hx; exact symRef_fresh y
  exact ⟨⟨KInv.init _ _, fun a ha _ _ r h1 _ => (by rw [hfresh a ha] at h1; cases h1), fun r hr => (by cases hr),
    fun n hn => NI_noref opts d {} (hfresh n hn)⟩, fun n hn r hr => by rw [hfresh n hn] at hr; cases hr⟩

theorem frontEndPre_finv {opts : Opts} {fs : SrcFiles} {roots : List (List Char)} {d : Decls} {defs : Defs} {nodes : List AstNode}
    (hp : frontEndPre opts fs roots = .ok (d, defs, nodes)) : FInv opts d defs nodes ∧ SlotsOK defs nodes :=
  frontEndPre_inv (fun d defs l => FInv opts d defs l ∧ SlotsOK defs l) (fun d defs l => FInv opts d defs l ∧ SlotsOK defs l)
    (fun _ => FInv.init opts _) (fun r hp => FInv.round r hp.1) (fun hr hp => defineRemaining_finv hp.1 hp.2 hr) hp

theorem frontEnd_finv (opts : Opts) (fs : SrcFiles) (roots : List (List Char)) (st : Static) (nodes : List AstNode) (defs0 : Defs)
    (h : frontEnd opts fs roots = .ok (st, nodes, defs0)) :
    st.opts = opts ∧ FInv opts st.decls defs0 nodes ∧ SlotsOK defs0 nodes := by
  obtain ⟨d, defsR, hp, hm, rfl⟩ := frontEnd_ok h
  obtain ⟨ff, sf⟩ := frontEndPre_finv hp
  have hs : defs0.symbols = defsR.symbols := by rw [← matchAll_symbols opts d defsR nodes, hm]
  exact ⟨rfl, ff.symbols_congr hs, sf.symbols_congr hs⟩

/-! ## what the resolver-side developments need, proved of the front end -/

theorem frontEnd_nodesOK (opts : Opts) (fs : SrcFiles) (roots : List (List Char)) (st : Static) (nodes : List AstNode) (defs0 : Defs)
    (h : frontEnd opts fs roots = .ok (st, nodes, defs0)) : NodesOK defs0 nodes := by
  obtain ⟨_, ff, sf⟩ := frontEnd_finv opts fs roots st nodes defs0 h
  intro n hn
  have symOK : ∀ r, symRef n = some r → SymOK defs0 r := fun r hr => .inr (Option.isSome_iff_exists.mp (sf n hn r hr))
  unfold NodeOK
  split
  next r =>
    refine ⟨symOK r rfl, fun x hx => ?_⟩
    rw [(ff.ni _ hn : (defs0.sym r).value = .unknown)] at hx; cases hx
  next r => exact symOK r rfl
  next => trivial

theorem frontEnd_frontOKS (opts : Opts) (fs : SrcFiles) (roots : List (List Char)) (st : Static) (nodes : List AstNode) (defs0 : Defs)
    (h : frontEnd opts fs roots = .ok (st, nodes, defs0)) : FrontOKS st nodes defs0 (markedByBoth st defs0) := by
  obtain ⟨hso, ff, sf⟩ := frontEnd_finv opts fs roots st nodes defs0 h
  constructor
  case constKnown =>
    intro l nm e ne r hm hk
    rw [← (ff.ni _ hm).1 (sf _ hm r rfl)]; exact hk
  case constUniq =>
    intro l nm e ne l' nm' e' ne' r hm hm'
    cases ff.fn _ hm' _ hm r rfl rfl
    rfl
  case hmarked => exact fun r => markedByBoth_resolved
  case cw0 =>
    intro l nm e ne r hm hres hh
    have hni := ff.ni _ hm
    obtain ⟨hk, _, hnd⟩ := (markedByBoth_eq_false hres).1 hh
    obtain ⟨hv, hp⟩ := hni.2 hres hk (hso ▸ hnd)
    have hpure : staticallyKnown pureP e = true := by rw [← hni.1 (sf _ hm r rfl)]; exact hk
    obtain ⟨c, hc⟩ := evalSimple_pure st st.decls defs0 e hpure (defs0.sym r).value (hp st.decls defs0) hv
    exact ⟨hk, (defs0.sym r).value, c, hc, rfl⟩

end Casm
