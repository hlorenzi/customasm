import Casm.Proofs.Frozen
import Casm.Proofs.StableId
import Casm.Proofs.EvalSimple
import Casm.Proofs.FrontInv
/-!
# Casm.Proofs.FrontOKb — the decision procedures `frontOKb`, `frontOKSb`, `frontUniqb` are sound

Each procedure runs over `positions nodes` and checks at every node what `FrontOK`, `FrontOKS`, `Uniq` and `NodesOK`
say of it; a field is read off the check at its node (`all_positions`).  The one fact that is not a plain look-up is
`evalSimple_pure`: the definite value `frontOKSb` finds by `eval_simple` is the resolver's.
-/
namespace Casm

theorem positions_of_split (nodes pre : List AstNode) (n : AstNode) (post : List AstNode) (h : nodes = pre ++ n :: post) :
    (pre.length, n) ∈ positions nodes ∧ nodes.take pre.length = pre := by
  subst h
  refine ⟨?_, by simp⟩
  unfold positions
  rw [List.mem_filterMap]
  refine ⟨pre.length, List.mem_range.mpr (by simp), ?_⟩
  simp

theorem mem_positions_length (nodes : List AstNode) (i : Nat) (n : AstNode) (h : (i, n) ∈ positions nodes) : nodes[i]? = some n := by
  unfold positions at h
  rw [List.mem_filterMap] at h
  obtain ⟨j, _, hj⟩ := h
  cases hn : nodes[j]? with
  | none => rw [hn] at hj; cases hj
  | some x =>
    rw [hn] at hj
    simp only [Option.map_some, Option.some.injEq, Prod.mk.injEq] at hj
    obtain ⟨h1, h2⟩ := hj
    subst h1; subst h2; exact hn

theorem all_positions {nodes : List AstNode} {p : Nat × AstNode → Bool} (h : (positions nodes).all p = true)
    {pre : List AstNode} {n : AstNode} {post : List AstNode} (hs : nodes = pre ++ n :: post) : p (pre.length, n) = true :=
  List.all_eq_true.mp h _ (positions_of_split nodes pre n post hs).1

theorem frontOKb_sound (st : Static) (nodes : List AstNode) (d0 : Defs) (ho : st.opts.optStatic = true)
    (h : frontOKb st nodes d0 = true) : FrontOK st nodes d0 := by
  unfold frontOKb at h
  simp only [Bool.and_eq_true] at h
  obtain ⟨⟨⟨h1, h2⟩, h3⟩, h4⟩ := h
  constructor
  case instrsFresh => intro ref; simpa using all_getD d0.instrs (fun i => !i.resolved) default rfl h1 ref
  case datasFresh => intro ref; simpa using all_getD d0.datas (fun x => !x.resolved) default rfl h2 ref
  case instrPos =>
    intro pre src ref post pre' src' post' hs hs'
    have hp := all_positions h3 hs
    simp only [Bool.and_eq_true] at hp
    have := all_positions hp.1 hs'
    simp only [bne_self_eq_false, Bool.false_or, beq_iff_eq] at this
    rw [(split_inj hs hs' this).1]
  case instrKnown =>
    intro pre src ref post hs hk c hc
    have hp := all_positions h3 hs
    simp only [Bool.and_eq_true, (positions_of_split nodes pre _ post hs).2, hk, Bool.not_true, Bool.false_or] at hp
    exact List.all_eq_true.mp hp.2 c hc
  case dataKnown =>
    intro pre sz es refs post k hs hk hkn
    have hp := List.all_eq_true.mp (all_positions h3 hs) k (List.mem_range.mpr hk)
    simp only [Bool.and_eq_true, hkn, Bool.not_true, Bool.false_or] at hp
    exact hp.1
  case dataPos =>
    intro pre sz es refs post k pre' sz' es' refs' post' k' hs hs' hk hk' hr
    have hp := List.all_eq_true.mp (all_positions h3 hs) k (List.mem_range.mpr hk)
    simp only [Bool.and_eq_true] at hp
    have := List.all_eq_true.mp (all_positions hp.2 hs') k' (List.mem_range.mpr hk')
    simp only [hr, bne_self_eq_false, Bool.false_or, Bool.and_eq_true, beq_iff_eq] at this
    obtain ⟨_, hn, _⟩ := split_inj hs hs' this.1
    cases hn
    rw [this.2]
    exact ⟨rfl, rfl⟩
  case labelNotKnown =>
    intro l nm ne r hm
    obtain ⟨pre, post, hs⟩ := List.append_of_mem hm
    simpa using all_positions h3 hs
  case j =>
    intro r hk hv
    rw [ho] at h4
    have := List.all_eq_true.mp h4 r (List.mem_range.mpr (sym_known_inrange d0 r hk))
    -- `hv` decides the `match` on the value
    simpa only [hk, Bool.not_true, Bool.false_or] using this

theorem frontOKSb_sound (st : Static) (nodes : List AstNode) (d0 : Defs) (h : frontOKSb st nodes d0 = true) :
    FrontOKS st nodes d0 (markedByBoth st d0) := by
  unfold frontOKSb at h
  constructor
  case constKnown =>
    intro l nm e ne r hm hk
    obtain ⟨pre, post, hs⟩ := List.append_of_mem hm
    have hp := all_positions h hs
    simp only [Bool.and_eq_true] at hp
    simpa [hk] using hp.1.2
  case constUniq =>
    intro l nm e ne l' nm' e' ne' r hm hm'
    obtain ⟨pre, post, hs⟩ := List.append_of_mem hm
    obtain ⟨pre', post', hs'⟩ := List.append_of_mem hm'
    have hp := all_positions h hs
    simp only [Bool.and_eq_true] at hp
    have := all_positions hp.1.1 hs'
    simp only [bne_self_eq_false, Bool.false_or, beq_iff_eq] at this
    obtain ⟨_, hn, _⟩ := split_inj hs hs' this
    cases hn; rfl
  case hmarked => exact fun r => markedByBoth_resolved
  case cw0 =>
    intro l nm e ne r hm hres hh
    obtain ⟨pre, post, hs⟩ := List.append_of_mem hm
    have hp := all_positions h hs
    simp only [Bool.and_eq_true, hres, hh, Bool.not_false, Bool.and_self, Bool.not_true, Bool.false_or] at hp
    obtain ⟨⟨_, hsk⟩, hk, h3⟩ := hp
    cases hes : evalSimple st.decls d0 e with
    | error m => rw [hes] at h3; cases h3
    | ok v =>
      rw [hes] at h3
      simp only [Bool.and_eq_true, beq_iff_eq] at h3
      obtain ⟨c, hc⟩ := evalSimple_pure st st.decls d0 e (by simpa [hk] using hsk) v hes fun hu => by rw [hu] at h3; cases h3.2
      exact ⟨hk, v, c, hc, h3.1.symm⟩

theorem frontUniqb_sound (nodes : List AstNode) (d0 : Defs) (h : frontUniqb nodes d0 = true) :
    Uniq nodes ∧ NodesOK d0 nodes := by
  unfold frontUniqb at h
  simp only at h
  have symOK : ∀ r, (decide (d0.symbols.length ≤ r) || (d0.symbols.getD r none).isSome) = true → SymOK d0 r := by
    intro r hr
    simp only [Bool.or_eq_true, decide_eq_true_eq] at hr
    exact hr.imp_right Option.isSome_iff_exists.mp
  refine ⟨?_, fun n hn => ?_⟩
  · constructor
    case instr =>
      intro pre src ref post hs src' hm
      obtain ⟨p1, p2, hs'⟩ := split_after hs hm
      have := all_positions (all_positions h hs) hs'
      simp only [bne_self_eq_false, Bool.false_or, beq_iff_eq, List.length_append, List.length_cons] at this
      omega
    case dataIn =>
      intro sz es refs hm k1 k2 hk1 hk2 heq
      obtain ⟨pre, post, hs⟩ := List.append_of_mem hm
      have h1 := List.all_eq_true.mp (all_positions h hs) k2 (List.mem_range.mpr hk2)
      have h3 := List.all_eq_true.mp (all_positions h1 hs) k1 (List.mem_range.mpr hk1)
      simp only [heq, bne_self_eq_false, Bool.false_or, Bool.and_eq_true, beq_iff_eq] at h3
      exact h3.2
    case dataOut =>
      intro pre sz es refs post hs sz' es' refs' hm k k' hk hk' heq
      obtain ⟨p1, p2, hs'⟩ := split_after hs hm
      have h1 := List.all_eq_true.mp (all_positions h hs) k (List.mem_range.mpr hk)
      have h3 := List.all_eq_true.mp (all_positions h1 hs') k' (List.mem_range.mpr hk')
      simp only [← heq, bne_self_eq_false, Bool.false_or, Bool.and_eq_true, beq_iff_eq, List.length_append, List.length_cons] at h3
      omega
  · obtain ⟨pre, post, hs⟩ := List.append_of_mem hn
    have hp0 := all_positions h hs
    unfold NodeOK
    split
    next r =>
      simp only [Bool.and_eq_true] at hp0
      refine ⟨symOK r hp0.1, fun x hx => ?_⟩
      have := hp0.2
      rw [hx] at this
      exact Option.isNone_iff_eq_none.mp this
    next r => exact symOK r hp0
    next => trivial

end Casm
