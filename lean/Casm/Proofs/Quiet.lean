import Casm.Proofs.StableId
import Casm.Proofs.IterModel
import Casm.Proofs.ResolveLemmas
/-!
# Casm.Proofs.Quiet — a pass that is not the last one reports nothing

Every non-fatal message of the resolvers (`... did not converge`, `assertion failed`, the messages
of a strict `resolve_encoding`) is issued in the last pass only.  With a budget of at least two the last
pass of a successful iteration is a strict, non-first, stable pass on the final state, and its messages are
all there is (`resolveIterativelyN_rep`).
-/
namespace Casm

theorem resolveEncoding_quiet (st : Static) (d : Defs) (ctx : RCtx) (cs : List IMatch) (a : ECtx)
    (x : Option (List (Nat × BI))) (r : List String) (h : resolveEncoding st d evalFuel ctx cs a = .ok (x, r))
    (hq : ctx.last = false ∨ ∃ l, x = some l) : r = [] := by
  rw [resolveEncoding_evalFuel] at h
  obtain ⟨rs, _, hc⟩ := map_ok _ _ _ h
  rcases hq with hl | ⟨l, rfl⟩
  · -- a guessing pass: both messages of `chooseEncoding` are behind `!canGuess`
    rw [show ctx.canGuess = true by rw [RCtx.canGuess, hl]; rfl] at hc
    unfold chooseEncoding at hc
    simp only [Bool.not_true, Bool.false_eq_true, if_false, Bool.false_and] at hc
    split at hc <;> cases hc <;> rfl
  · exact (chooseEncoding_some hc).1

theorem quiet_of {changed last s : Bool} {msg : String} {r : List String}
    (hs : s = !changed) (hr : r = if changed && last then [msg] else []) (hq : s = true ∨ last = false) : r = [] := by
  rcases hq with rfl | rfl
  · rw [hr, show changed = false by simpa using hs.symm]; rfl
  · rw [hr, Bool.and_false]; rfl

theorem dispatch_rep (st : Static) (d d' : Defs) (ctx : RCtx) (n : AstNode) (k : Nat) (s : Bool) (r : List String)
    (h : dispatch st d ctx n k = .ok (d', s, r)) (hq : s = true ∨ ctx.last = false)
    (hn : ctx.last = false ∨ ∀ e, n ≠ .assert e) : r = [] := by
  cases dispatch_stepped h with
  | label _ _ hs => exact quiet_of (converge_ok hs).2.1 (converge_ok hs).2.2 hq
  | const _ _ _ hs => exact quiet_of (converge_ok hs).2.1 (converge_ok hs).2.2 hq
  | instr encs rp _ he hs =>
    -- the messages of `resolveEncoding` come with the last pass and with no candidate at all
    have hrp : ∀ l, encs = some l → rp = [] := fun l hl => resolveEncoding_quiet st d ctx _ _ encs rp he (.inr ⟨l, hl⟩)
    rcases instrStep_ok hs with ⟨l, _, hl, _, _, _, _, hr⟩ | ⟨l, _, hl, _, _, _, _, hr⟩ | ⟨_, rfl, hr⟩
    · rw [hr, hrp l hl]
    · rw [hr hq, hrp l hl]
    · rw [hr]; exact resolveEncoding_quiet st d ctx _ _ encs rp he (.inl (hq.resolve_left Bool.false_ne_true))
  | data _ _ _ hs =>
    obtain ⟨_, _, _, hs⟩ := dataStep_ok hs
    rcases storeStep_ok hs with ⟨_, _, _, _, _, hr⟩ | ⟨_, _, _, _, _, hr⟩ | ⟨_, _, rfl, hr⟩
    · exact hr
    · exact hr hq
    · exact hr (hq.resolve_left Bool.false_ne_true)
  | res _ _ hs => obtain ⟨_, _, _, _, hs, hr⟩ := resStep_ok hs; exact quiet_of hs hr hq
  | align _ _ hs => obtain ⟨_, _, _, hs, hr⟩ := alignStep_ok hs; exact quiet_of hs hr hq
  | addr _ _ hs => obtain ⟨_, _, _, hs, hr⟩ := addrStep_ok hs; exact quiet_of hs hr hq
  | assert _ hl _ _ => exact absurd rfl (hn.resolve_left (Bool.ne_false_iff.mpr hl) _)
  | _ => rfl

theorem dispatch_quiet (st : Static) (d d' : Defs) (ctx : RCtx) (hl : ctx.last = false) (n : AstNode) (k : Nat) (s : Bool) (r : List String)
    (h : dispatch st d ctx n k = .ok (d', s, r)) : r = [] :=
  dispatch_rep st d d' ctx n k s r h (Or.inr hl) (Or.inl hl)

theorem runVisits_reported (st : Static) (first : Bool) {vs : List Visit} {a a1 : PassSt}
    (h : runVisits st first false vs a = .ok a1) : a1.reported = a.reported :=
  runVisits_inv' (I := fun x => x.reported = a.reported) h rfl fun n k x x' _ ih hp => by
    obtain ⟨_, s, r, _, hd, _, _, _, hrep⟩ := passNode_inv st first false x x' n k hp
    rw [hrep, dispatch_quiet st _ _ _ rfl n k s r hd, List.append_nil, ih]

theorem resolveOnce_quiet (st : Static) (nodes : List AstNode) (first : Bool) (d d' : Defs) (s : Bool) (r : List String)
    (h : resolveOnce st nodes first false d = .ok (d', s, r)) : r = [] := by
  obtain ⟨ps, hp, _, _, rfl⟩ := resolveOnce_ok.mp h
  exact runVisits_reported st first hp

theorem resolveIterativelyN_rep (st : Static) (nodes : List AstNode) (max : Nat) (hmax : 2 ≤ max) (hwf : NoClash nodes)
    (d0 : Defs) (k : Nat) (d : Defs) (rep : List String) (h : resolveIterativelyN st nodes max d0 = .ok (k, d, rep)) :
    resolveOnce st nodes false true d = .ok (d, true, rep) := by
  obtain ⟨i, d1, rp, f, r, ⟨hq, hI⟩, hp, hrep, hf1, hf0⟩ := resolveIterativelyN_ok_inv
    (I := fun i d rp => rp = [] ∧ (1 ≤ i → NodesOK d nodes)) ⟨rfl, fun h0 => absurd h0 (by omega)⟩
    (fun i d rp d1 b r _ hI hp => ⟨by rw [hI.1, resolveOnce_quiet st nodes _ d d1 b r hp]; rfl,
      fun _ => pass_establishes_ok st nodes _ _ d d1 b r hp hwf⟩) h
  cases f with
  | true => have := (hf1 rfl).2; omega
  | false =>
    have hid := resolveOnce_stable_id st nodes true d1 d r hp (hI ((hf0 rfl).resolve_right (by omega)))
    subst hid
    rw [hrep, hq]; exact hp

end Casm
