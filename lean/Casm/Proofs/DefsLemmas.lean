import Casm.Model.Assemble
import Casm.Proofs.ListLemmas
/-!
# Casm.Proofs.DefsLemmas — the symbol slots of a state, read and written

`Defs.sym` reads slot `r` of `symbols`; a slot that is absent or empty reads as the default entry.  The resolver and
`resolve_constants_simple` write an entry with `setSym`, which needs the slot to exist; `define_symbols` and
`define_remaining` make a slot with `padTo … set`.  Each write is described slot by slot (`slot_setSym_eq`,
`slot_padset`: a `SlotSet`), and a description of that form gives the entries (`SlotSet.sym`).
-/
namespace Casm

theorem slot_lt {l : List (Option SymDef)} {r : Nat} (h : (l.getD r none).isSome = true) : r < l.length :=
  lt_of_getD_ne fun he => by rw [he] at h; cases h

theorem sym_of_symbols_eq {a b : Defs} (h : b.symbols = a.symbols) (r : Nat) : b.sym r = a.sym r := by
  unfold Defs.sym; rw [h]

theorem sym_known_inrange (d : Defs) (r : Nat) (h : (d.sym r).known = true) : r < d.symbols.length :=
  lt_of_getD_ne (a := none) fun he => by rw [Defs.sym, he] at h; cases h

theorem sym_of_noslot (defs : Defs) (r : Nat) (h : (defs.symbols.getD r none).isSome = false) : defs.sym r = {} := by
  unfold Defs.sym
  cases hx : defs.symbols.getD r none with
  | none => rfl
  | some s => rw [hx] at h; cases h

def SlotSet (defs defs' : Defs) (r : Nat) (s : SymDef) : Prop :=
  ∀ r', defs'.symbols.getD r' none = if r' = r then some s else defs.symbols.getD r' none

theorem SlotSet.sym {defs defs' : Defs} {r : Nat} {s : SymDef} (hx : SlotSet defs defs' r s) (r' : Nat) :
    defs'.sym r' = if r' = r then s else defs.sym r' := by
  simp only [Defs.sym, hx r']
  split <;> rfl

theorem sym_setSym_eq (d : Defs) (r : Nat) (sd : SymDef) (x : Nat) :
    (d.setSym r sd).sym x = if x = r ∧ r < d.symbols.length then sd else d.sym x := by
  simp only [Defs.sym, Defs.setSym, getD_set, eq_comm (a := r)]
  split <;> rfl

theorem sym_setSym (d : Defs) (ref r : Nat) (sd : SymDef) :
    (d.setSym ref sd).sym r = d.sym r ∨ (r = ref ∧ (d.setSym ref sd).sym r = sd) := by
  rw [sym_setSym_eq]
  split
  next h => exact .inr ⟨h.1, rfl⟩
  next => exact .inl rfl

theorem sym_setSym_lt (d : Defs) (ref : Nat) (sd : SymDef) (h : ref < d.symbols.length) : (d.setSym ref sd).sym ref = sd := by
  rw [sym_setSym_eq, if_pos ⟨rfl, h⟩]

theorem slot_setSym_eq (defs : Defs) (r : Nat) (s' : SymDef) (hs : (defs.symbols.getD r none).isSome = true) (r' : Nat) :
    (defs.setSym r s').symbols.getD r' none = if r' = r then some s' else defs.symbols.getD r' none := by
  simp only [Defs.setSym, getD_set, slot_lt hs, and_true, eq_comm (a := r)]

theorem slot_setSym (defs : Defs) (r r' : Nat) (s' : SymDef) (hs : (defs.symbols.getD r none).isSome = true) :
    ((defs.setSym r s').symbols.getD r' none).isSome = (defs.symbols.getD r' none).isSome := by
  rw [slot_setSym_eq defs r s' hs]
  by_cases h : r' = r
  · rw [if_pos h, h]; exact hs.symm
  · rw [if_neg h]

theorem sym_setSym_self (defs : Defs) (r : Nat) (s' : SymDef) (hs : (defs.symbols.getD r none).isSome = true) :
    (defs.setSym r s').sym r = s' :=
  sym_setSym_lt defs r s' (slot_lt hs)

theorem padTo_getD {α} (l : List α) (n i : Nat) (x : α) : (padTo l n x).getD i x = l.getD i x := by
  rw [padTo, getD_append_replicate]

theorem padTo_length_gt {α} (l : List α) (n : Nat) (x : α) : n < (padTo l n x).length := by
  simp only [padTo, List.length_append, List.length_replicate]
  omega

theorem padset_length {α} (l : List α) (r : Nat) (x y : α) : ((padTo l r x).set r y).length = max l.length (r + 1) := by
  simp only [padTo, List.length_set, List.length_append, List.length_replicate]
  omega

theorem slot_padset (l : List (Option SymDef)) (r r' : Nat) (sd : SymDef) :
    ((padTo l r none).set r (some sd)).getD r' none = if r' = r then some sd else l.getD r' none := by
  simp only [getD_set, padTo_getD, padTo_length_gt, and_true, eq_comm (a := r)]

theorem sym_padset (defs : Defs) (r r' : Nat) (sd : SymDef) :
    ({ defs with symbols := (padTo defs.symbols r none).set r (some sd) } : Defs).sym r' = if r' = r then sd else defs.sym r' :=
  SlotSet.sym (slot_padset defs.symbols r · sd) r'

end Casm
