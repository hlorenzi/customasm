import Casm.Proofs.ItemStep
import Casm.Proofs.ListLemmas
/-!
# Casm.Proofs.PassFold — a pass is a fold of `passNode` over its visits

`passNodes` walks the node list and, inside a `#d` list, its elements.  Flattened, that is one list
of *visits* `(n, k)` and one left fold of `passNode` (`runVisits`).  Every fact about a whole pass is
proved through this representation: an invariant of `passNode` is an invariant of the pass
(`runVisits_inv`), two runs whose steps can be matched can be matched as a whole (`runVisits_sim`;
`runVisits_lockstep` where they also fail together), and the three functions of the model
(`passNodes.go`, `passNodes`, `resolveOnce`) are instances (`go_eq`, `passNodes_eq`, `resolveOnce_eq`).
What a successful visit consists of is `passNode_inv`; where a visit stands in the node list, and that its
symbol context is `ctxAfter` of the nodes up to its own, `visits_split` and `visit_ctx`.
-/
namespace Casm

def nodeElems : AstNode → Nat
  | .data _ es _ => es.length
  | _ => 1

theorem passNode_eq' (st : Static) (first last : Bool) (ps : PassSt) (n : AstNode) (k : Nat) :
    passNode st first last ps n k =
      (match visit ps.defs.banks ps.it (nodeItem st ps.defs n k) with
      | .error e => .error (layErrMsg e)
      | .ok it =>
        match dispatch st ps.defs ⟨first, last, stepCtx st ps.symCtx n, it.bank, it.pos⟩ n k with
        | .error m => .error m
        | .ok (defs, stable, reported) =>
          match advance defs.banks it (nodeItem st defs n k) with
          | .error e => .error (layErrMsg e)
          | .ok it' => .ok ⟨defs, it', stepCtx st ps.symCtx n, ps.stable && stable, ps.reported ++ reported⟩) := by
  unfold passNode dispatch stepCtx
  rfl

theorem passNode_inv (st : Static) (first last : Bool) (a a' : PassSt) (n : AstNode) (k : Nat)
    (h : passNode st first last a n k = .ok a') :
    ∃ it s r, visit a.defs.banks a.it (nodeItem st a.defs n k) = .ok it ∧
      dispatch st a.defs ⟨first, last, stepCtx st a.symCtx n, it.bank, it.pos⟩ n k = .ok (a'.defs, s, r) ∧
      advance a'.defs.banks it (nodeItem st a'.defs n k) = .ok a'.it ∧ a'.symCtx = stepCtx st a.symCtx n ∧
      a'.stable = (a.stable && s) ∧ a'.reported = a.reported ++ r := by
  rw [passNode_eq'] at h
  split at h
  · cases h
  · rename_i it hv
    split at h
    · cases h
    · rename_i defs stable reported hd
      split at h
      · cases h
      · rename_i it' ha
        injection h with h
        subst h
        exact ⟨it, stable, reported, hv, hd, ha, rfl, rfl, rfl⟩

theorem passNode_inv_stable {st : Static} {first last : Bool} {a a' : PassSt} {n : AstNode} {k : Nat}
    (h : passNode st first last a n k = .ok a') (hs : a'.stable = true) :
    a.stable = true ∧ ∃ it r, visit a.defs.banks a.it (nodeItem st a.defs n k) = .ok it ∧
      dispatch st a.defs ⟨first, last, stepCtx st a.symCtx n, it.bank, it.pos⟩ n k = .ok (a'.defs, true, r) ∧
      advance a'.defs.banks it (nodeItem st a'.defs n k) = .ok a'.it ∧ a'.symCtx = stepCtx st a.symCtx n ∧
      a'.reported = a.reported ++ r := by
  obtain ⟨it, s, r, hv, hd, ha, hsc, hst, hrep⟩ := passNode_inv st first last a a' n k h
  rw [hst, Bool.and_eq_true] at hs
  obtain ⟨hs0, rfl⟩ := hs
  exact ⟨hs0, it, r, hv, hd, ha, hsc, hrep⟩

theorem passNode_stable_mono (st : Static) (first last : Bool) (ps ps' : PassSt) (n : AstNode) (k : Nat)
    (h : passNode st first last ps n k = .ok ps') (hs : ps'.stable = true) : ps.stable = true :=
  (passNode_inv_stable h hs).1

abbrev Visit := AstNode × Nat

def elemVisits (n : AstNode) (k fuel : Nat) : List Visit := (List.range' k fuel).map (n, ·)

def visits (nodes : List AstNode) : List Visit := nodes.flatMap fun n => elemVisits n 0 (nodeElems n)

theorem visits_cons (n : AstNode) (rest : List AstNode) : visits (n :: rest) = elemVisits n 0 (nodeElems n) ++ visits rest := rfl

theorem visits_append (a b : List AstNode) : visits (a ++ b) = visits a ++ visits b := List.flatMap_append

theorem elemVisits_succ (n : AstNode) (k fuel : Nat) : elemVisits n k (fuel + 1) = (n, k) :: elemVisits n (k + 1) fuel := by
  unfold elemVisits
  rw [List.range'_succ, List.map_cons]

theorem mem_elemVisits {n m : AstNode} {k fuel j : Nat} : (m, j) ∈ elemVisits n k fuel ↔ m = n ∧ k ≤ j ∧ j < k + fuel := by
  simp only [elemVisits, List.mem_map, List.mem_range'_1, Prod.mk.injEq]
  constructor
  · rintro ⟨x, hx, rfl, rfl⟩; exact ⟨rfl, hx⟩
  · rintro ⟨rfl, hx⟩; exact ⟨j, hx, rfl, rfl⟩

theorem mem_visits {nodes : List AstNode} {n : AstNode} {k : Nat} : (n, k) ∈ visits nodes ↔ n ∈ nodes ∧ k < nodeElems n := by
  simp only [visits, List.mem_flatMap, mem_elemVisits, Nat.zero_le, true_and, Nat.zero_add]
  constructor
  · rintro ⟨m, hm, rfl, hk⟩; exact ⟨hm, hk⟩
  · rintro ⟨hn, hk⟩; exact ⟨n, hn, rfl, hk⟩

theorem mem_of_visits_eq {nodes : List AstNode} {done rest : List Visit} {n : AstNode} {k : Nat}
    (h : visits nodes = done ++ (n, k) :: rest) : n ∈ nodes ∧ k < nodeElems n :=
  mem_visits.mp (by rw [h]; simp)

theorem mem_visits_fst {nodes : List AstNode} {n : AstNode} (hn : n ∈ nodes) (h : 0 < nodeElems n) :
    n ∈ (visits nodes).map (·.1) :=
  List.mem_map.mpr ⟨(n, 0), mem_visits.mpr ⟨hn, h⟩, rfl⟩

/-- a node with no visit is an empty `#d` list: it has no symbol context of its own -/
theorem nodeElems_pos_of_symbol (st : Static) (sc : List String) (n : AstNode) :
    nodeElems n = 0 → stepCtx st sc n = sc := by
  intro h
  cases n with
  | symbol => cases h
  | _ => rfl

theorem stepCtx_idem (st : Static) (sc : List String) (n : AstNode) : stepCtx st (stepCtx st sc n) n = stepCtx st sc n := by
  cases n with
  | symbol l nm k ne r => cases r <;> rfl
  | _ => rfl

theorem ctxAfter_append (st : Static) (sc : List String) (a b : List AstNode) :
    ctxAfter st sc (a ++ b) = ctxAfter st (ctxAfter st sc a) b := List.foldl_append

theorem ctxAfter_snoc (st : Static) (sc : List String) (pre : List AstNode) (n : AstNode) :
    ctxAfter st sc (pre ++ [n]) = stepCtx st (ctxAfter st sc pre) n := by
  rw [ctxAfter_append]; rfl

theorem ctxAfter_elemVisits (st : Static) (sc : List String) (n : AstNode) (k j : Nat) (hj : j ≤ nodeElems n) :
    ctxAfter st sc ((elemVisits n k j).map (·.1)) = if j = 0 then sc else stepCtx st sc n := by
  induction j generalizing sc k with
  | zero => rfl
  | succ j ih =>
    -- the first visit steps the context; the later ones repeat the step
    rw [elemVisits_succ, if_neg (Nat.succ_ne_zero j)]
    show ctxAfter st (stepCtx st sc n) ((elemVisits n (k + 1) j).map (·.1)) = _
    rw [ih _ _ (Nat.le_of_succ_le hj)]
    split
    · rfl
    · exact stepCtx_idem st sc n

theorem ctxAfter_visits (st : Static) (sc : List String) (nodes : List AstNode) :
    ctxAfter st sc ((visits nodes).map (·.1)) = ctxAfter st sc nodes := by
  induction nodes generalizing sc with
  | nil => rfl
  | cons n rest ih =>
    rw [visits_cons, List.map_append, ctxAfter_append, ctxAfter_elemVisits st sc n 0 _ (Nat.le_refl _), ih]
    by_cases h0 : nodeElems n = 0
    · rw [if_pos h0]
      show _ = ctxAfter st (stepCtx st sc n) rest
      rw [nodeElems_pos_of_symbol st sc n h0]
    · rw [if_neg h0]; rfl

theorem elemVisits_split {n m : AstNode} {s e k : Nat} {d r : List Visit} (h : elemVisits n s e = d ++ (m, k) :: r) :
    m = n ∧ s ≤ k ∧ k < s + e ∧ d = elemVisits n s (k - s) ∧ r = elemVisits n (k + 1) (s + e - (k + 1)) := by
  obtain ⟨l₁, l₂, hl, rfl, h2⟩ := List.map_eq_append_iff.mp h
  obtain ⟨j, hj, rfl, rfl⟩ := List.range'_eq_append_iff.mp hl
  obtain ⟨a, l, hl2, ha, rfl⟩ := List.map_eq_cons_iff.mp h2
  obtain ⟨rfl, hpos, rfl⟩ := List.range'_eq_cons_iff.mp hl2
  cases ha
  rw [Nat.mul_one] at *
  refine ⟨rfl, by omega, by omega, by rw [Nat.add_sub_cancel_left]; rfl, ?_⟩
  rw [show s + e - (s + j + 1) = e - j - 1 by omega]; rfl

theorem visits_split {nodes : List AstNode} {done rest : List Visit} {n : AstNode} {k : Nat}
    (h : visits nodes = done ++ (n, k) :: rest) :
    ∃ pre post, nodes = pre ++ n :: post ∧ k < nodeElems n ∧ done = visits pre ++ elemVisits n 0 k ∧
      rest = elemVisits n (k + 1) (nodeElems n - (k + 1)) ++ visits post := by
  obtain ⟨pre, a, post, d, r, e1, e2, e3, e4⟩ := flatMap_split _ h
  obtain ⟨rfl, _, f2, f3, f4⟩ := elemVisits_split e2
  exact ⟨pre, post, e1, by omega, by rw [e3, f3]; rfl, by rw [e4, f4, Nat.zero_add]; rfl⟩

def runVisits (st : Static) (first last : Bool) : List Visit → PassSt → Except (String × List String) PassSt
  | [], ps => .ok ps
  | v :: vs, ps =>
    match passNode st first last ps v.1 v.2 with
    | .error m => .error (m, ps.reported)
    | .ok ps' => runVisits st first last vs ps'

theorem runVisits_append (st : Static) (first last : Bool) (xs ys : List Visit) (ps : PassSt) :
    runVisits st first last (xs ++ ys) ps =
      match runVisits st first last xs ps with
      | .error e => .error e
      | .ok ps1 => runVisits st first last ys ps1 := by
  induction xs generalizing ps with
  | nil => rfl
  | cons v xs ih =>
    simp only [List.cons_append, runVisits]
    cases passNode st first last ps v.1 v.2 with
    | error m => rfl
    | ok ps1 => exact ih ps1

theorem go_eq (st : Static) (first last : Bool) (n : AstNode) (k fuel : Nat) (ps : PassSt) :
    passNodes.go st first last n k fuel ps = runVisits st first last (elemVisits n k fuel) ps := by
  induction fuel generalizing k ps with
  | zero => rfl
  | succ f ih =>
    rw [elemVisits_succ]
    simp only [passNodes.go, runVisits]
    cases passNode st first last ps n k with
    | error m => rfl
    | ok ps1 => exact ih (k + 1) ps1

theorem passNodes_cons (st : Static) (first last : Bool) (n : AstNode) (rest : List AstNode) (ps : PassSt) :
    passNodes st first last (n :: rest) ps =
      match passNodes.go st first last n 0 (nodeElems n) ps with
      | .error e => .error e
      | .ok ps' => passNodes st first last rest ps' := by
  cases n <;> rfl

theorem passNodes_eq (st : Static) (first last : Bool) (nodes : List AstNode) (ps : PassSt) :
    passNodes st first last nodes ps = runVisits st first last (visits nodes) ps := by
  induction nodes generalizing ps with
  | nil => rfl
  | cons n rest ih =>
    rw [passNodes_cons, visits_cons, runVisits_append, go_eq]
    cases runVisits st first last (elemVisits n 0 (nodeElems n)) ps with
    | error e => rfl
    | ok ps1 => exact ih ps1

def PassSt.init (d : Defs) : PassSt := ⟨d, initIter d.banks, [], true, []⟩

theorem resolveOnce_eq (st : Static) (nodes : List AstNode) (first last : Bool) (d : Defs) :
    resolveOnce st nodes first last d =
      (runVisits st first last (visits nodes) (.init d)).map fun ps => (ps.defs, ps.stable, ps.reported) := by
  unfold resolveOnce PassSt.init
  rw [passNodes_eq]
  cases runVisits st first last (visits nodes) ⟨d, initIter d.banks, [], true, []⟩ <;> rfl

theorem resolveOnce_ok {st : Static} {nodes : List AstNode} {first last : Bool} {d d' : Defs} {s : Bool} {r : List String} :
    resolveOnce st nodes first last d = .ok (d', s, r) ↔
      ∃ ps, runVisits st first last (visits nodes) (.init d) = .ok ps ∧ ps.defs = d' ∧ ps.stable = s ∧ ps.reported = r := by
  rw [resolveOnce_eq]
  cases runVisits st first last (visits nodes) (.init d) with
  | error e => simp [Except.map]
  | ok ps => simp [Except.map, Prod.ext_iff]

theorem runVisits_split {st : Static} {first last : Bool} {xs ys : List Visit} {a0 a1 : PassSt}
    (h : runVisits st first last (xs ++ ys) a0 = .ok a1) :
    ∃ a, runVisits st first last xs a0 = .ok a ∧ runVisits st first last ys a = .ok a1 := by
  rw [runVisits_append] at h
  cases hx : runVisits st first last xs a0 with
  | error e => rw [hx] at h; cases h
  | ok a => rw [hx] at h; exact ⟨a, rfl, h⟩

theorem runVisits_cons_ok {st : Static} {first last : Bool} {v : Visit} {vs : List Visit} {a0 a1 : PassSt}
    (h : runVisits st first last (v :: vs) a0 = .ok a1) :
    ∃ a, passNode st first last a0 v.1 v.2 = .ok a ∧ runVisits st first last vs a = .ok a1 := by
  simp only [runVisits] at h
  cases hp : passNode st first last a0 v.1 v.2 with
  | error m => rw [hp] at h; cases h
  | ok a => rw [hp] at h; exact ⟨a, rfl, h⟩

theorem runVisits_snoc {st : Static} {first last : Bool} {done : List Visit} {v : Visit} {a0 a a' : PassSt}
    (hd : runVisits st first last done a0 = .ok a) (hp : passNode st first last a v.1 v.2 = .ok a') :
    runVisits st first last (done ++ [v]) a0 = .ok a' := by
  rw [runVisits_append, hd]; simp only [runVisits, hp]

/-- `I done a`: `a` is the state after the visits `done`; the step may use where the visit stands in
    the pass and the run that led to it. -/
theorem runVisits_inv {st : Static} {first last : Bool} {vs : List Visit} {a0 a1 : PassSt}
    {I : List Visit → PassSt → Prop} (h : runVisits st first last vs a0 = .ok a1) (h0 : I [] a0)
    (step : ∀ done n k rest a a', vs = done ++ (n, k) :: rest → runVisits st first last done a0 = .ok a → I done a →
      passNode st first last a n k = .ok a' → I (done ++ [(n, k)]) a') : I vs a1 := by
  suffices ∀ rest done a, vs = done ++ rest → runVisits st first last done a0 = .ok a → I done a →
      runVisits st first last rest a = .ok a1 → I vs a1 from this vs [] a0 rfl rfl h0 h
  intro rest
  induction rest with
  | nil => intro done a hs _ hI hr; injection hr with hr; subst hr; rw [hs, List.append_nil]; exact hI
  | cons v rest ih =>
    intro done a hs hd hI hr
    obtain ⟨a', hp, hr'⟩ := runVisits_cons_ok hr
    exact ih (done ++ [v]) a' (by rw [hs, List.append_assoc]; rfl) (runVisits_snoc hd hp)
      (step done v.1 v.2 rest a a' hs hd hI hp) hr'

theorem runVisits_inv' {st : Static} {first last : Bool} {vs : List Visit} {a0 a1 : PassSt}
    {I : PassSt → Prop} (h : runVisits st first last vs a0 = .ok a1) (h0 : I a0)
    (step : ∀ n k a a', (n, k) ∈ vs → I a → passNode st first last a n k = .ok a' → I a') : I a1 :=
  runVisits_inv (I := fun _ a => I a) h h0 fun done n k rest a a' hs _ hI hp =>
    step n k a a' (by rw [hs]; simp) hI hp

theorem runVisits_stable_mono {st : Static} {first last : Bool} {vs : List Visit} {a0 a1 : PassSt}
    (h : runVisits st first last vs a0 = .ok a1) (hs : a1.stable = true) : a0.stable = true :=
  runVisits_inv' (I := fun a => a.stable = true → a0.stable = true) h id
    (fun _ _ _ _ _ ih hp hs' => ih (passNode_stable_mono _ _ _ _ _ _ _ hp hs')) hs

theorem passNode_symCtx (st : Static) (first last : Bool) (ps ps' : PassSt) (n : AstNode) (k : Nat)
    (h : passNode st first last ps n k = .ok ps') : ps'.symCtx = stepCtx st ps.symCtx n := by
  obtain ⟨_, _, _, _, _, _, hsc, _⟩ := passNode_inv st first last ps ps' n k h
  exact hsc

theorem runVisits_symCtx {st : Static} {first last : Bool} {vs : List Visit} {a0 a1 : PassSt}
    (h : runVisits st first last vs a0 = .ok a1) : a1.symCtx = ctxAfter st a0.symCtx (vs.map (·.1)) :=
  runVisits_inv (I := fun done a => a.symCtx = ctxAfter st a0.symCtx (done.map (·.1))) h rfl
    fun done n k _ a a' _ _ ih hp => by
      rw [passNode_symCtx st first last a a' n k hp, ih, List.map_append, List.map_singleton, ctxAfter_snoc]

theorem visit_ctx {st : Static} {first last : Bool} {nodes : List AstNode} {done rest : List Visit} {n : AstNode} {k : Nat}
    {a0 a : PassSt} (hs : visits nodes = done ++ (n, k) :: rest) (hd : runVisits st first last done a0 = .ok a) :
    ∃ pre post, nodes = pre ++ n :: post ∧ k < nodeElems n ∧ stepCtx st a.symCtx n = ctxAfter st a0.symCtx (pre ++ [n]) := by
  obtain ⟨pre, post, e1, e2, e3, _⟩ := visits_split hs
  refine ⟨pre, post, e1, e2, ?_⟩
  rw [runVisits_symCtx hd, e3, List.map_append, ctxAfter_append, ctxAfter_visits, ctxAfter_elemVisits st _ n 0 k (by omega),
    ctxAfter_snoc]
  split
  · rfl
  · exact stepCtx_idem st _ n

theorem runVisits_rest {st : Static} {first last : Bool} {done rest : List Visit} {n : AstNode} {k : Nat} {a0 a a' a1 : PassSt}
    (h : runVisits st first last (done ++ (n, k) :: rest) a0 = .ok a1) (hd : runVisits st first last done a0 = .ok a)
    (hp : passNode st first last a n k = .ok a') : runVisits st first last rest a' = .ok a1 := by
  rw [runVisits_append, hd] at h
  simp only [runVisits, hp] at h
  exact h

theorem runVisits_sim {st st' : Static} {first last first' last' : Bool} {vs : List Visit} {a0 a1 b0 : PassSt}
    {R : PassSt → PassSt → Prop} (h : runVisits st first last vs a0 = .ok a1) (h0 : R a0 b0)
    (step : ∀ done n k rest a a' b, vs = done ++ (n, k) :: rest → runVisits st first last done a0 = .ok a →
      passNode st first last a n k = .ok a' → runVisits st first last rest a' = .ok a1 → R a b →
      ∃ b', passNode st' first' last' b n k = .ok b' ∧ R a' b') :
    ∃ b1, runVisits st' first' last' vs b0 = .ok b1 ∧ R a1 b1 :=
  runVisits_inv (I := fun done a => ∃ b, runVisits st' first' last' done b0 = .ok b ∧ R a b) h ⟨b0, rfl, h0⟩
    fun done n k rest a a' hs hd ⟨b, hb, hR⟩ hp => by
      obtain ⟨b', hq, hR'⟩ := step done n k rest a a' b hs hd hp (runVisits_rest (hs ▸ h) hd hp) hR
      exact ⟨b', runVisits_snoc (v := (n, k)) hb hq, hR'⟩

theorem runVisits_lockstep {st st' : Static} {first last first' last' : Bool} {vs : List Visit} {a0 b0 : PassSt}
    {R : PassSt → PassSt → Prop} (hrep : ∀ a b, R a b → b.reported = a.reported) (h0 : R a0 b0)
    (step : ∀ done n k rest a b, vs = done ++ (n, k) :: rest → runVisits st first last done a0 = .ok a → R a b →
      ExRel R (passNode st first last a n k) (passNode st' first' last' b n k)) :
    ExRel R (runVisits st first last vs a0) (runVisits st' first' last' vs b0) := by
  suffices ∀ rest done a b, vs = done ++ rest → runVisits st first last done a0 = .ok a → R a b →
      ExRel R (runVisits st first last rest a) (runVisits st' first' last' rest b) from this vs [] a0 b0 rfl rfl h0
  intro rest
  induction rest with
  | nil => intro done a b _ _ hR; exact ⟨b, rfl, hR⟩
  | cons v rest ih =>
    intro done a b hs hd hR
    simp only [runVisits]
    rcases (step done v.1 v.2 rest a b hs hd hR).cases with ⟨m, hp, hq⟩ | ⟨a', b', hp, hq, hR'⟩ <;> simp only [hp, hq]
    · rw [hrep a b hR]; exact rfl
    · exact ih (done ++ [v]) a' b' (by rw [hs, List.append_assoc]; rfl) (runVisits_snoc hd hp) hR'

theorem runVisits_congr {st st' : Static} {first last first' last' : Bool} (vs : List Visit)
    (h : ∀ a n k, (n, k) ∈ vs → passNode st' first' last' a n k = passNode st first last a n k) (a : PassSt) :
    runVisits st' first' last' vs a = runVisits st first last vs a := by
  induction vs generalizing a with
  | nil => rfl
  | cons v vs ih =>
    simp only [runVisits, h a v.1 v.2 (by simp)]
    cases passNode st first last a v.1 v.2 with
    | error m => rfl
    | ok a' => exact ih (fun a n k hm => h a n k (by simp [hm])) a'

theorem resolveOnce_congr {st st' : Static} {first last first' last' : Bool} (nodes : List AstNode)
    (h : ∀ a n k, n ∈ nodes → passNode st' first' last' a n k = passNode st first last a n k) (d : Defs) :
    resolveOnce st' nodes first' last' d = resolveOnce st nodes first last d := by
  rw [resolveOnce_eq, resolveOnce_eq, runVisits_congr _ fun a n k hm => h a n k (mem_visits.mp hm).1]

end Casm
