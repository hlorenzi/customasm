import Casm.Model.Bits
import Mathlib.Algebra.Group.Int.Defs
import Mathlib.Algebra.Group.Nat.Defs
/-!
# Casm.Proofs.BitsLemmas — sizes and bits of integers

`minSize v ≤ n` as a two-sided bound on `v` (`minSize_le_iff`); bit `i` (`tbit`) of a remainder, a shift, a `bitsRange`
and a `BI.slice`; an MSB-first bit list as a number (`ofBits`), and the bit string emitted for a value as its remainder
(`ofBits_emitBits`); what the typed arguments reject, as inequalities (`rejects_u_prop`, `rejects_s_prop`,
`rejects_i_prop`).  Everything compiles without the two Mathlib imports, but then `^` in the statements of C04, C05, C11
and C19 is core's `instNatPowNat`/`Int.instNatPow` and not Mathlib's `Monoid.toNPow`: other statements than those that
`Casm/Audit` and MANIFEST.json name.
-/
namespace Casm

theorem pow2_cast (k : Nat) : ((2 ^ k : Nat) : Int) = 2 ^ k := Int.natCast_pow 2 k

theorem nbits_le_iff (n k : Nat) : nbits n ≤ k ↔ n < 2 ^ k := by
  unfold nbits
  by_cases h : n = 0
  · rw [if_pos h, h]; exact iff_of_true (Nat.zero_le k) (Nat.two_pow_pos k)
  · rw [if_neg h]; exact Nat.log2_lt h

-- `omega` reads `((2 ^ k : Nat) : Int)` and `(2 : Int) ^ k` as different atoms: `pow2_cast k` identifies them
theorem minSize_pos_le (x : Int) (hx : 0 < x) (k : Nat) : minSize x ≤ k ↔ x < 2 ^ k := by
  have := pow2_cast k
  unfold minSize
  rw [if_neg (by omega), if_neg (by omega), nbits_le_iff]
  omega

theorem minSize_neg_le (x : Int) (hx : x < 0) (k : Nat) : minSize x ≤ k + 1 ↔ -(2 ^ k) ≤ x := by
  have := pow2_cast k
  unfold minSize
  rw [if_neg (by omega), if_pos hx, Nat.add_le_add_iff_right, nbits_le_iff]
  omega

theorem minSize_zero : minSize 0 = 1 := rfl

theorem minSize_pos (v : Int) : 0 < minSize v := by
  unfold minSize nbits
  by_cases h0 : v = 0
  · rw [if_pos h0]; exact Nat.one_pos
  · rw [if_neg h0]
    by_cases hn : v < 0
    · rw [if_pos hn]; exact Nat.succ_pos _
    · rw [if_neg hn, if_neg (by omega)]; exact Nat.succ_pos _

theorem minSize_neg_ge_one (x : Int) (_hx : x < 0) : 1 ≤ minSize x := minSize_pos x

theorem minSize_le_iff (v : Int) (n : Nat) (hn : 1 ≤ n) :
    minSize v ≤ n ↔ -(2 ^ (n - 1)) ≤ v ∧ v < 2 ^ n := by
  obtain ⟨k, rfl⟩ : ∃ k, n = k + 1 := ⟨n - 1, by omega⟩
  have hp : (0 : Int) < 2 ^ k := Int.pow_pos (by decide)
  rw [Nat.add_sub_cancel, Int.pow_succ]
  rcases Int.lt_trichotomy v 0 with h | h | h
  · rw [minSize_neg_le v h]; omega
  · subst h; rw [minSize_zero]; omega
  · rw [minSize_pos_le v h, Int.pow_succ]; omega

theorem tbit_eq (x : Int) (i : Nat) : tbit x i = ((x / 2 ^ i) % 2 == 1) := by
  rw [tbit, Int.shiftRight_eq_div_pow, pow2_cast]

theorem tbit_ofNat (n i : Nat) : tbit (n : Int) i = n.testBit i := by
  rw [Nat.testBit_eq_decide_div_mod_eq, ← Nat.shiftRight_eq_div_pow]
  -- `>>>` on `Int` is defined by cases: on a natural number it is the shift of that number, on `negSucc n` that of `n`
  show (((n >>> i : Nat) : Int) % 2 == 1) = _
  generalize n >>> i = m
  by_cases h : m % 2 = 1
  · have : (m : Int) % 2 = 1 := by omega
    simp [h, this]
  · have : (m : Int) % 2 = 0 := by omega
    simp [h, this]

theorem tbit_negSucc (n i : Nat) : tbit (-(n : Int) - 1) i = !n.testBit i := by
  rw [show -(n : Int) - 1 = Int.negSucc n by omega, Nat.testBit_eq_decide_div_mod_eq, ← Nat.shiftRight_eq_div_pow]
  show (Int.negSucc (n >>> i) % 2 == 1) = _
  generalize n >>> i = m
  by_cases h : m % 2 = 1
  · have : Int.negSucc m % 2 = 0 := by omega
    simp [h, this]
  · have : Int.negSucc m % 2 = 1 := by omega
    simp [h, this]

theorem bitsRange_zero_right (x : Int) (n : Nat) : bitsRange x n 0 = x % 2 ^ n := by
  unfold bitsRange; simp [Int.shiftRight_eq_div_pow]

theorem bitsRange_nonneg (x : Int) (l r : Nat) : 0 ≤ bitsRange x l r := by
  unfold bitsRange
  apply Int.emod_nonneg
  have := Nat.two_pow_pos (l - r)
  omega

theorem bitsRange_lt (x : Int) (l r : Nat) : bitsRange x l r < 2 ^ (l - r) := by
  unfold bitsRange
  rw [pow2_cast]
  apply Int.emod_lt_of_pos
  exact Int.pow_pos (by decide)

theorem emod_mul_ediv (x a b : Int) (ha : 0 < a) : x % (a * b) / a = (x / a) % b := by
  rw [Int.emod_def x (a * b), Int.emod_def (x / a) b]
  have : x - a * b * (x / (a * b)) = x + a * (-(b * (x / (a * b)))) := by
    rw [Int.mul_neg, Int.mul_assoc]; omega
  rw [this, Int.add_mul_ediv_left _ _ (by omega), Int.ediv_ediv_of_nonneg (by omega)]
  omega

theorem tbit_emod_pow (x : Int) (n i : Nat) :
    tbit (x % 2 ^ n) i = (decide (i < n) && tbit x i) := by
  rw [tbit_eq, tbit_eq]
  by_cases h : i < n
  · simp only [h, decide_true, Bool.true_and]
    obtain ⟨d, rfl⟩ : ∃ d, n = i + (d + 1) := ⟨n - i - 1, by omega⟩
    have e : (2 : Int) ^ (i + (d + 1)) = 2 ^ i * (2 * 2 ^ d) := by
      rw [Int.pow_add, Int.pow_succ]; ac_rfl
    rw [e, emod_mul_ediv _ _ _ (Int.pow_pos (by decide)), Int.emod_emod_of_dvd _ (Int.dvd_mul_right 2 _)]
  · -- the remainder is below `2 ^ n ≤ 2 ^ i`, so the quotient is 0
    simp only [h, decide_false, Bool.false_and]
    have hp : (0 : Int) < 2 ^ n := Int.pow_pos (by decide)
    have h0 : 0 ≤ x % 2 ^ n := Int.emod_nonneg _ (by omega)
    have h1 : x % 2 ^ n < 2 ^ n := Int.emod_lt_of_pos _ hp
    have h2 : (2 : Int) ^ n ≤ 2 ^ i := by
      have : (2 : Nat) ^ n ≤ 2 ^ i := Nat.pow_le_pow_right (by decide) (by omega)
      exact_mod_cast this
    have : x % 2 ^ n / 2 ^ i = 0 := Int.ediv_eq_zero_of_lt h0 (by omega)
    rw [this]; rfl

theorem tbit_shiftRight (x : Int) (r i : Nat) : tbit (x >>> r) i = tbit x (r + i) := by
  unfold tbit; rw [Int.shiftRight_add]

theorem tbit_bitsRange (x : Int) (l r i : Nat) :
    tbit (bitsRange x l r) i = (decide (i < l - r) && tbit x (r + i)) := by
  unfold bitsRange
  rw [pow2_cast, tbit_emod_pow, tbit_shiftRight]

theorem BI.slice_size (x : BI) (l r : Nat) : (x.slice l r).size = some (l - r) := by
  unfold BI.slice
  by_cases h : x.size = some l ∧ r = 0 ∧ ¬ x.v < 0
  · rw [if_pos h, h.1, h.2.1]; rfl
  · rw [if_neg h]

theorem tbit_slice_lt (x : BI) (l r i : Nat) (hi : i < l - r) : tbit (x.slice l r).v i = tbit x.v (r + i) := by
  unfold BI.slice
  by_cases h : x.size = some l ∧ r = 0 ∧ ¬ x.v < 0
  · rw [if_pos h, h.2.1, Nat.zero_add]
  · rw [if_neg h, tbit_bitsRange, decide_eq_true hi, Bool.true_and]

def ofBits (l : List Bool) : Nat := l.foldl (fun acc b => 2 * acc + (if b then 1 else 0)) 0

theorem ofBits_foldl (l : List Bool) (a : Nat) :
    l.foldl (fun acc b => 2 * acc + (if b then 1 else 0)) a = a * 2 ^ l.length + ofBits l := by
  induction l generalizing a with
  | nil => simp [ofBits]
  | cons b l ih =>
    simp only [List.foldl_cons, List.length_cons, ofBits]
    rw [ih, ih (2 * 0 + _), Nat.pow_succ, Nat.mul_zero, Nat.zero_add, Nat.add_mul, Nat.add_assoc,
      Nat.mul_comm 2 a, Nat.mul_assoc, Nat.mul_comm 2]

theorem ofBits_cons (b : Bool) (l : List Bool) :
    ofBits (b :: l) = (if b then 1 else 0) * 2 ^ l.length + ofBits l := by
  rw [ofBits, List.foldl_cons, ofBits_foldl, Nat.mul_zero, Nat.zero_add]

theorem ofBits_lt (l : List Bool) : ofBits l < 2 ^ l.length := by
  induction l with
  | nil => decide
  | cons b l ih =>
    rw [ofBits_cons, List.length_cons, Nat.pow_succ]
    cases b with
    | false => rw [if_neg Bool.false_ne_true, Nat.zero_mul]; omega
    | true => rw [if_pos rfl, Nat.one_mul]; omega

theorem testBit_ofBits (l : List Bool) (i : Nat) : (ofBits l).testBit i = l.reverse.getD i false := by
  induction l generalizing i with
  | nil => simp [ofBits]
  | cons b l ih =>
    rw [ofBits_cons, Nat.mul_comm, Nat.testBit_two_pow_mul_add _ (ofBits_lt l), List.reverse_cons,
      List.getD_eq_getElem?_getD, List.getElem?_append, List.length_reverse, ih, List.getD_eq_getElem?_getD]
    split
    · rfl
    · cases b <;> cases i - l.length <;> simp [Nat.testBit_succ]

theorem emitBits_eq_reverse (x : Int) (N : Nat) : emitBits x N = ((List.range N).map (tbit x)).reverse := by
  rw [← List.map_reverse, List.range_eq_range', List.reverse_range', List.map_map]
  simp only [emitBits, Function.comp_def, List.range_eq_range', Nat.zero_add]

theorem ofBits_emitBits (v : Int) (N : Nat) : (ofBits (emitBits v N) : Int) = v % 2 ^ N := by
  have h0 : 0 ≤ v % 2 ^ N := Int.emod_nonneg _ (Int.ne_of_gt (Int.pow_pos (by decide)))
  rw [← Int.toNat_of_nonneg h0]
  congr 1
  apply Nat.eq_of_testBit_eq
  intro i
  rw [testBit_ofBits, emitBits_eq_reverse, List.reverse_reverse, ← tbit_ofNat, Int.toNat_of_nonneg h0, tbit_emod_pow]
  by_cases hi : i < N <;> simp [hi]

theorem rejects_u_prop (N : Nat) (v : Int) : rejects .u N v = true ↔ (v < 0 ∨ N < minSize v) := by
  unfold rejects sign
  rcases Int.lt_trichotomy v 0 with h | h | h
  · simp [h]
  · subst h; simp
  · have h1 : ¬ v < 0 := by omega
    have h2 : ¬ v = 0 := by omega
    simp [h1, h2]

theorem rejects_i_prop (N : Nat) (v : Int) : rejects .i N v = true ↔ N < minSize v := by
  unfold rejects; simp

theorem rejects_s_prop (N : Nat) (v : Int) : rejects .s N v = true ↔
    ((v = 0 ∧ N = 0) ∨ (0 < v ∧ N ≤ minSize v) ∨ (v < 0 ∧ N < minSize v)) := by
  unfold rejects sign
  rcases Int.lt_trichotomy v 0 with h | h | h
  · have h1 : ¬ v = 0 := by omega
    have h2 : ¬ 0 < v := by omega
    simp [h, h1, h2]
  · subst h; simp
  · have h1 : ¬ v < 0 := by omega
    have h2 : ¬ v = 0 := by omega
    simp [h1, h2, h]

theorem isSome_checkArg_iff (t : Ty) (N : Nat) (v : Int) : (checkArg t N v).isSome ↔ ¬ (rejects t N v = true) := by
  unfold checkArg; cases rejects t N v <;> simp

end Casm
