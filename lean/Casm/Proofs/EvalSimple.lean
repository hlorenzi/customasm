import Casm.Proofs.StaticMatch
import Casm.Proofs.ResolveLemmas
/-!
# Casm.Proofs.EvalSimple — what `eval_simple` computes, against the resolver and against itself in another state

`eval_simple` evaluates in an environment of its own (`simpleEnv`): the address, calls and `asm` blocks are
`unknown`, a built-in name is itself, a symbol reads as the value of its slot (`slotVal`).  For a statically known
expression the environment is never asked for a symbol, so the result is the same in every state (`evalSimple_indep`),
and a definite one is the value the resolver computes (`evalSimple_pure`: `eval_simple` answers `unknown` where the
resolver reads a file; the one-directional `eval_static_le` carries every definite answer over).  For any expression:
during the first loop of `assemble` names that resolve keep resolving to the same declaration and a symbol that has a
definite value keeps it (`Later`), so a definite result, in particular the `true` or `false` of an `#if` condition, is
the result in every later state (`evalSimple_later`).
-/
namespace Casm

def slotVal (defs : Defs) (r : Nat) : Except String Value :=
  match defs.symbols.getD r none with
  | some s => .ok s.value
  | none => .ok .unknown

theorem slotVal_eq (defs : Defs) (r : Nat) : slotVal defs r = .ok (defs.sym r).value := by
  unfold slotVal Defs.sym
  cases defs.symbols.getD r none <;> rfl

def simpleEnv (d : Decls) (defs : Defs) : EvalEnv :=
  { var := fun level path =>
      if level == 0 && (path == ["$"] || path == ["pc"]) then .ok .unknown
      else if level == 0 && (match path with | [n] => isAsmBuiltinName n | _ => false) then
        .ok (.asmBuiltin (path.head?.getD ""))
      else match d.symbols.tryGetByName [] level path with
        | some r => slotVal defs r
        | none => .ok .unknown
    fn := fun _ _ _ => .ok .unknown
    asm := fun _ _ => .ok .unknown }

theorem evalSimple_eq (d : Decls) (defs : Defs) (e : Expr) :
    evalSimple d defs e = match eval (simpleEnv d defs) {} e with
      | .error m => .error m
      | .ok (.failed msg, _) => .error msg
      | .ok (v, _) => .ok v := rfl

theorem evalSimple_eq_ok {d : Decls} {defs : Defs} {e : Expr} {v : Value} :
    evalSimple d defs e = .ok v ↔ ∃ c, eval (simpleEnv d defs) {} e = .ok (v, c) ∧ ∀ m, v ≠ .failed m := by
  rw [evalSimple_eq]
  constructor
  · intro h
    split at h
    next => cases h
    next => cases h
    next w c hne hev =>
      cases h
      exact ⟨c, hev, hne⟩
  · rintro ⟨c, hev, hf⟩
    rw [hev]
    split
    next h => cases h
    next h => cases h; exact absurd rfl (hf _)
    next h => cases h; rfl

theorem simpleEnv_asmBuiltin (d : Decls) (defs : Defs) (n : String) (h : isAsmBuiltinName n = true) :
    (simpleEnv d defs).var 0 [n] = .ok (.asmBuiltin n) := by
  rcases asmBuiltin_cases n h with rfl | rfl | rfl <;> rfl

theorem evalSimple_indep (d1 d2 : Decls) (f1 f2 : Defs) (e : Expr) (hk : staticallyKnown pureP e = true) :
    evalSimple d2 f2 e = evalSimple d1 f1 e := by
  rw [evalSimple_eq, evalSimple_eq]
  have ag : Agree pureP (simpleEnv d1 f1) (simpleEnv d2 f2) := by
    refine ⟨fun l path hq => (by cases hq), fun _ _ _ => rfl, ?_⟩
    intro n hq _
    exact ⟨n, simpleEnv_asmBuiltin d1 f1 n hq, simpleEnv_asmBuiltin d2 f2 n hq⟩
  rw [(eval_static pureP pureP_ok _ _ ag {} e hk (.nil rfl rfl)).1]

theorem evalSimple_pure (st : Static) (d : Decls) (defs : Defs) (e : Expr) (hk : staticallyKnown pureP e = true)
    (v : Value) (h : evalSimple d defs e = .ok v) (hv : v ≠ .unknown) :
    ∃ c, ∀ s ctx, resolverEval st s ctx {} e = .ok (v, c) := by
  obtain ⟨c, hev, _⟩ := evalSimple_eq_ok.1 h
  refine ⟨c, fun s ctx => ?_⟩
  have ag : AgreeLe pureP (simpleEnv d defs) (mkEnv st s evalFuel ctx) := by
    refine ⟨fun l path hq => (by cases hq), ?_, ?_⟩
    · intro n vs c' w hw hne
      cases (hw : Except.ok Value.unknown = .ok w)
      exact absurd rfl hne
    · intro n hq _
      exact Or.inl ⟨n, simpleEnv_asmBuiltin d defs n hq, by rw [mkEnv_var]; exact evalVariable_asmBuiltin st s ctx n hq⟩
  have hu : v.isUnk = false := by
    cases v with
    | unknown => exact absurd rfl hv
    | _ => rfl
  exact (eval_static_le pureP pureP_ok _ _ ag {} e hk (.nil rfl rfl) v c hev hu).1

structure Later (d : Decls) (defs : Defs) (d' : Decls) (defs' : Defs) : Prop where
  names : ∀ level path r, d.symbols.tryGetByName [] level path = some r → d'.symbols.tryGetByName [] level path = some r
  values : ∀ r v, slotVal defs r = .ok v → v.shouldPropagate = false → slotVal defs' r = .ok v

theorem Later.refl (d : Decls) (defs : Defs) : Later d defs d defs := ⟨fun _ _ _ h => h, fun _ _ h _ => h⟩

theorem Later.trans {d1 d2 d3 : Decls} {f1 f2 f3 : Defs} (a : Later d1 f1 d2 f2) (b : Later d2 f2 d3 f3) : Later d1 f1 d3 f3 :=
  ⟨fun l p r h => b.names l p r (a.names l p r h), fun r v h hv => b.values r v (a.values r v h hv) hv⟩

theorem simpleEnv_var_cases (l : Nat) (p : List String) :
    (∀ d defs, (simpleEnv d defs).var l p = .ok .unknown) ∨ (∃ n, ∀ d defs, (simpleEnv d defs).var l p = .ok (.asmBuiltin n)) ∨
    ∀ d defs, (simpleEnv d defs).var l p = match d.symbols.tryGetByName [] l p with
      | some r => slotVal defs r
      | none => .ok .unknown := by
  by_cases h1 : (l == 0 && (p == ["$"] || p == ["pc"])) = true
  · exact .inl fun _ _ => if_pos h1
  · by_cases h2 : (l == 0 && (match (generalizing := false) p with | [n] => isAsmBuiltinName n | _ => false)) = true
    · exact .inr (.inl ⟨_, fun _ _ => (if_neg h1).trans (if_pos h2)⟩)
    · exact .inr (.inr fun _ _ => (if_neg h1).trans (if_neg h2))

theorem simpleEnv_defLe (d : Decls) (defs : Defs) (d' : Decls) (defs' : Defs) (h : Later d defs d' defs') :
    DefLe (simpleEnv d defs) (simpleEnv d' defs') := by
  -- the answers other than a symbol's value are `unknown`, which is not definite, or the same in every state
  refine ⟨fun l p v hv hp => ?_, fun f a c v hv hp => ?_, fun t c v hv hp => ?_⟩
  · rcases simpleEnv_var_cases l p with e | ⟨n, e⟩ | e <;> rw [e] at hv ⊢
    · cases hv; cases hp
    · exact hv
    · cases hr : d.symbols.tryGetByName [] l p with
      | none => rw [hr] at hv; cases hv; cases hp
      | some r =>
        rw [hr] at hv
        rw [h.names l p r hr]
        exact h.values r v hv hp
  · cases (hv : Except.ok Value.unknown = .ok v); cases hp
  · cases (hv : Except.ok Value.unknown = .ok v); cases hp

theorem evalSimple_later (d : Decls) (defs : Defs) (d' : Decls) (defs' : Defs) (h : Later d defs d' defs') (e : Expr) (v : Value)
    (hv : evalSimple d defs e = .ok v) (hp : v.shouldPropagate = false) : evalSimple d' defs' e = .ok v := by
  obtain ⟨c, he, hf⟩ := evalSimple_eq_ok.1 hv
  exact evalSimple_eq_ok.2 ⟨c, eval_definite _ _ (simpleEnv_defLe d defs d' defs' h) {} e v c he hp, hf⟩

end Casm
