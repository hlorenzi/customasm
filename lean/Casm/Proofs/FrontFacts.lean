import Casm.Proofs.Frozen
import Casm.Proofs.KindInv
import Casm.Proofs.StableId
/-!
# Casm.Proofs.FrontFacts — the front end establishes the facts `FrontOK` and `Uniq`

`define_remaining` numbers instructions and data elements consecutively (so their references are
pairwise distinct and nothing is marked), the `known` flag of a data element is the analysis of
its expression (`AR`); `match_all` stores for each instruction the analysis of its candidates in the
symbol context of its node (`MInv`: an entry is still the one it found, or was stored at a node of the prefix walked
that refers to it).
The two facts of `FrontOK` about the symbol table go through the declaration loop (`Flagged`): a symbol flagged
statically known is a constant or a function (so no label is flagged), and — with the static optimisation on — a flagged
symbol that has a value is marked resolved.  The results are `frontEnd_frontOK` and `frontEnd_uniq`.
-/
namespace Casm

def countI : List AstNode → Nat
  | [] => 0
  | .instr _ (some _) :: rest => countI rest + 1
  | _ :: rest => countI rest

def countD : List AstNode → Nat
  | [] => 0
  | .data _ es _ :: rest => countD rest + es.length
  | _ :: rest => countD rest

theorem countI_append (a b : List AstNode) : countI (a ++ b) = countI a + countI b := by
  induction a with
  | nil => exact (Nat.zero_add _).symm
  | cons x xs ih =>
    cases x with
    | instr src r =>
      cases r with
      | none => exact ih
      | some _ =>
        show countI (xs ++ b) + 1 = countI xs + 1 + countI b
        omega
    | _ => exact ih

theorem countD_append (a b : List AstNode) : countD (a ++ b) = countD a + countD b := by
  induction a with
  | nil => exact (Nat.zero_add _).symm
  | cons x xs ih =>
    cases x with
    | data sz es refs =>
      show countD (xs ++ b) + es.length = countD xs + es.length + countD b
      omega
    | _ => exact ih

def EachPos {α} (l : List α) (P : List α → α → Prop) : Prop := ∀ pre n post, l = pre ++ n :: post → P pre n

theorem EachPos.nil {α} {P : List α → α → Prop} : EachPos [] P := fun pre _ _ h => by cases pre <;> cases h

theorem EachPos.snoc {α} {l : List α} {x : α} {P : List α → α → Prop} (h : EachPos l P) (hx : P l x) : EachPos (l ++ [x]) P := by
  intro pre n post hs
  rcases List.eq_nil_or_concat post with rfl | ⟨post', y, rfl⟩
  · obtain ⟨rfl, e⟩ := List.append_inj' hs rfl
    cases e
    exact hx
  · rw [List.concat_eq_append, ← List.cons_append, ← List.append_assoc] at hs
    exact h pre n post' (List.append_inj' hs rfl).1

/-- a count of the prefixes cuts the numbers into one interval per position: a number lies in one of them only -/
theorem split_unique_of_count {α} (c : List α → Nat) (happ : ∀ a b, c (a ++ b) = c a + c b) {pre pre' post post' : List α} {a b : α}
    (hs : pre ++ a :: post = pre' ++ b :: post') {x : Nat} (h1 : c pre ≤ x) (h2 : x < c pre + c [a])
    (h1' : c pre' ≤ x) (h2' : x < c pre' + c [b]) : pre' = pre := by
  rcases List.append_eq_append_iff.mp hs with ⟨_ | ⟨_, t⟩, e, ht⟩ | ⟨_ | ⟨_, t⟩, e, ht⟩
  · simpa using e
  · cases ht
    have : c (a :: t) = c [a] + c t := happ [a] t
    rw [e, happ] at h1'
    omega
  · simpa using e.symm
  · cases ht
    have : c (b :: t) = c [b] + c t := happ [b] t
    rw [e, happ] at h1
    omega

/-- the entries `define_remaining` makes for the elements of a data node -/
def dataOf : AstNode → List DataDef
  | .data sz es _ => es.map fun e =>
      { known := staticallyKnown pureP e, encoding := ⟨0, some ((match sz with | some s => some s | none => staticSize {} e).getD 0)⟩ }
  | _ => []

def dataDefs (l : List AstNode) : List DataDef := l.flatMap dataOf

theorem dataDefs_append (a b : List AstNode) : dataDefs (a ++ b) = dataDefs a ++ dataDefs b := List.flatMap_append

theorem dataDefs_snoc (l : List AstNode) (x : AstNode) : dataDefs (l ++ [x]) = dataDefs l ++ dataOf x := by
  rw [dataDefs_append]; exact congrArg _ (List.append_nil _)

theorem length_dataDefs (l : List AstNode) : (dataDefs l).length = countD l := by
  induction l with
  | nil => rfl
  | cons x xs ih =>
    show (dataOf x ++ dataDefs xs).length = _
    rw [List.length_append, ih]
    cases x with
    | data sz es refs =>
      show (es.map _).length + countD xs = countD xs + es.length
      rw [List.length_map, Nat.add_comm]
    | _ => exact Nat.zero_add _

/-- the invariant of the fold of `assignRef`, `out` being the nodes put out so far: the two tables hold one fresh entry for
    each instruction and each data element of `out`, and the references of a node are the numbers of those before it -/
structure AR (df : Defs) (out : List AstNode) : Prop where
  instrs : df.instrs = List.replicate (countI out) {}
  datas : df.datas = dataDefs out
  instrAt : EachPos out fun pre n => ∀ src ref, n = .instr src (some ref) → ref = countI pre
  dataAt : EachPos out fun pre n => ∀ sz es refs, n = .data sz es refs → refs = (List.range es.length).map (· + countD pre)

theorem AR.il {df : Defs} {out : List AstNode} (self : AR df out) : df.instrs.length = countI out := by
  rw [self.instrs, List.length_replicate]

theorem AR.dl {df : Defs} {out : List AstNode} (self : AR df out) : df.datas.length = countD out := by
  rw [self.datas, length_dataDefs]

theorem AR.instr_getD {df : Defs} {out : List AstNode} (self : AR df out) (ref : Nat) :
    df.instrs.getD ref default = {} ∨ df.instrs.getD ref default = default := by
  rw [self.instrs, List.getD_eq_getElem?_getD, List.getElem?_replicate]
  split
  · exact .inl rfl
  · exact .inr rfl

theorem AR.ifresh {df : Defs} {out : List AstNode} (self : AR df out) (ref : Nat) : (df.instrs.getD ref default).resolved = false := by
  rcases self.instr_getD ref with e | e <;> rw [e] <;> rfl

theorem AR.iknown {df : Defs} {out : List AstNode} (self : AR df out) (ref : Nat) : (df.instrs.getD ref default).known = false := by
  rcases self.instr_getD ref with e | e <;> rw [e] <;> rfl

theorem AR.dfresh {df : Defs} {out : List AstNode} (self : AR df out) (ref : Nat) : (df.datas.getD ref default).resolved = false := by
  have hall : (dataDefs out).all (fun x => !x.resolved) = true := List.all_eq_true.2 fun x hx => by
    obtain ⟨n, _, hx⟩ := List.mem_flatMap.1 hx
    unfold dataOf at hx
    split at hx
    · obtain ⟨_, _, rfl⟩ := List.mem_map.1 hx; rfl
    · cases hx
  simpa [self.datas] using all_getD _ _ default rfl hall ref

theorem AR.ipos {df : Defs} {out : List AstNode} (self : AR df out) {pre : List AstNode} {src : List Char} {ref : Nat} {post : List AstNode}
    (hs : out = pre ++ .instr src (some ref) :: post) : ref = countI pre :=
  self.instrAt pre _ post hs src ref rfl

theorem AR.dpos {df : Defs} {out : List AstNode} (self : AR df out) {pre : List AstNode} {sz : Option Nat} {es : List Expr} {refs : List Nat}
    {post : List AstNode} (hs : out = pre ++ .data sz es refs :: post) {k : Nat} (hk : k < es.length) : refs.getD k 0 = countD pre + k := by
  rw [self.dataAt pre _ post hs sz es refs rfl]
  simp [List.getD_eq_getElem?_getD, List.getElem?_map, List.getElem?_range hk, Nat.add_comm]

theorem AR.dknown {df : Defs} {out : List AstNode} (self : AR df out) {pre : List AstNode} {sz : Option Nat} {es : List Expr} {refs : List Nat}
    {post : List AstNode} (hs : out = pre ++ .data sz es refs :: post) {k : Nat} (hk : k < es.length) :
    (df.datas.getD (countD pre + k) default).known = staticallyKnown pureP (es.getD k default) := by
  rw [self.datas, hs, dataDefs_append, getD_append, if_neg (by rw [length_dataDefs]; omega), length_dataDefs, Nat.add_sub_cancel_left]
  show ((dataOf (.data sz es refs) ++ dataDefs post).getD k default).known = _
  rw [getD_append, if_pos (by rw [dataOf, List.length_map]; exact hk)]
  simp only [dataOf, List.getD_eq_getElem?_getD, List.getElem?_map, List.getElem?_eq_getElem hk, Option.map_some, Option.getD_some]

theorem assignRef_ar (df : Defs) (out : List AstNode) (n : AstNode) (h : AR df out) :
    AR (assignRef (df, out) n).1 (assignRef (df, out) n).2 := by
  cases n <;> simp only [assignRef]
  case instr src r =>
    refine ⟨?_, by rw [dataDefs_snoc, ← h.datas]; exact (List.append_nil _).symm, h.instrAt.snoc ?_, h.dataAt.snoc nofun⟩
    · rw [countI_append, h.instrs]
      exact List.replicate_succ'.symm
    · rintro _ _ ⟨⟩; exact h.il
  case data sz es refs0 =>
    refine ⟨by rw [countI_append]; exact h.instrs, by rw [dataDefs_snoc, ← h.datas]; rfl, h.instrAt.snoc nofun, h.dataAt.snoc ?_⟩
    rintro _ _ _ ⟨⟩; rw [h.dl]
  -- the other nodes count for nothing, and neither table is touched
  all_goals exact ⟨by rw [countI_append]; exact h.instrs, by rw [dataDefs_snoc, ← h.datas]; exact (List.append_nil _).symm,
    h.instrAt.snoc nofun, h.dataAt.snoc nofun⟩

theorem ar_instrPos {df : Defs} {out : List AstNode} (h : AR df out) {pre post pre' post' : List AstNode} {src src' : List Char} {ref : Nat}
    (hs : out = pre ++ .instr src (some ref) :: post) (hs' : out = pre' ++ .instr src' (some ref) :: post') : pre' = pre := by
  have e1 := h.ipos hs
  have e2 := h.ipos hs'
  exact split_unique_of_count countI countI_append (hs.symm.trans hs') (x := ref) (by omega) (by simp only [countI]; omega)
    (by omega) (by simp only [countI]; omega)

theorem ar_dataPos {df : Defs} {out : List AstNode} (h : AR df out) {pre post pre' post' : List AstNode} {sz sz' : Option Nat}
    {es es' : List Expr} {refs refs' : List Nat} {k k' : Nat}
    (hs : out = pre ++ .data sz es refs :: post) (hs' : out = pre' ++ .data sz' es' refs' :: post')
    (hk : k < es.length) (hk' : k' < es'.length) (hr : refs.getD k 0 = refs'.getD k' 0) :
    sz' = sz ∧ es'.getD k' default = es.getD k default := by
  rw [h.dpos hs hk, h.dpos hs' hk'] at hr
  have e := split_unique_of_count countD countD_append (hs.symm.trans hs') (x := countD pre + k) (by omega) (by simp only [countD]; omega)
    (by omega) (by simp only [countD]; omega)
  subst e
  cases List.append_cancel_left (hs.symm.trans hs')
  obtain rfl : k = k' := by omega
  exact ⟨rfl, rfl⟩

def Stored (st : Static) (D : Defs) (pre1 : List AstNode) (ins : InstrDef) : Prop :=
  ins.resolved = false ∧ (ins.known = true → ∀ c ∈ ins.cands, matchKnown st.decls D (ctxAfter st [] pre1) 64 c.m = true)

/-- what `match_all` maintains after having processed the prefix `pre` (entered with state `D`) -/
structure MInv (st : Static) (D : Defs) (pre : List AstNode) (acc : Defs × List String × List String) : Prop where
  syms : acc.1.symbols = D.symbols
  rd : acc.1.ruledefs = D.ruledefs
  datas : acc.1.datas = D.datas
  sc : acc.2.1 = ctxAfter st [] pre
  entry : ∀ ref, acc.1.instrs.getD ref default = D.instrs.getD ref default ∨
    ∃ pre1 src post1, pre = pre1 ++ .instr src (some ref) :: post1 ∧ Stored st D pre1 (acc.1.instrs.getD ref default)

theorem matchStep_inv (opts : Opts) (st : Static) (D : Defs) (pre : List AstNode) (n : AstNode)
    (acc : Defs × List String × List String) (h : MInv st D pre acc) : MInv st D (pre ++ [n]) (matchStep opts st.decls acc n) := by
  obtain ⟨defs, symCtx, rep⟩ := acc
  have hsc : symCtx = ctxAfter st [] pre := h.sc
  have old : ∀ ref, defs.instrs.getD ref default = D.instrs.getD ref default ∨
      ∃ pre1 src post1, pre ++ [n] = pre1 ++ .instr src (some ref) :: post1 ∧ Stored st D pre1 (defs.instrs.getD ref default) :=
    fun ref => (h.entry ref).imp_right fun ⟨pre1, src, post1, e, hs⟩ => ⟨pre1, src, post1 ++ [n], by rw [e]; simp, hs⟩
  have same : ∀ rep', MInv st D (pre ++ [n]) (defs, stepCtx st symCtx n, rep') := fun rep' =>
    ⟨h.syms, h.rd, h.datas, by rw [ctxAfter_snoc, ← hsc], old⟩
  cases n with
  | instr src r =>
    cases r with
    | none => exact same rep
    | some r =>
      simp only [matchStep]
      split
      · exact same _
      · refine ⟨h.syms, h.rd, h.datas, by rw [ctxAfter_snoc, ← hsc]; rfl, fun ref => ?_⟩
        dsimp only
        rcases getD_set_eq_or defs.instrs r ref _ default with e | ⟨rfl, e⟩ <;> rw [e]
        · exact old ref
        · -- the entry just written: flagged only if every candidate is statically known, here
          refine .inr ⟨pre, src, [], rfl, rfl, fun hk c hc => ?_⟩
          obtain ⟨m, _, rfl⟩ := List.mem_map.mp hc
          rw [← hsc, ← (matchKnown_congr st.decls D defs h.rd (fun r' => by rw [sym_of_symbols_eq h.syms r']) symCtx 64).1]
          exact List.all_eq_true.mp hk _ hc
  | symbol l nm kd ne r => cases r <;> exact same rep
  | _ => exact same rep

theorem matchAll_inv (opts : Opts) (st : Static) (D : Defs) : ∀ (rest pre : List AstNode) (acc : Defs × List String × List String),
    MInv st D pre acc → MInv st D (pre ++ rest) (rest.foldl (matchStep opts st.decls) acc) := by
  intro rest
  induction rest with
  | nil => intro pre acc h; rwa [List.append_nil]
  | cons n rest ih =>
    intro pre acc h
    rw [List.append_cons]
    exact ih (pre ++ [n]) _ (matchStep_inv opts st D pre n acc h)

/-- `define_remaining` and `match_all` establish `FrontOK`, given its two facts about symbols (`hl`, `hj`) -/
theorem matchAll_frontOK (opts : Opts) (st : Static) (D : Defs) (nodes : List AstNode) (har : AR D nodes) (d0 : Defs)
    (h0 : d0 = (matchAll opts st.decls D nodes).1)
    (hl : ∀ l nm ne r, AstNode.symbol l nm .label ne (some r) ∈ nodes → (d0.sym r).known = false)
    (hj : ∀ r, (d0.sym r).known = true → (d0.sym r).value ≠ .unknown → (d0.sym r).resolved = true) : FrontOK st nodes d0 := by
  rw [matchAll_eq] at h0
  have inv : MInv st D nodes _ := matchAll_inv opts st D nodes [] (D, [], []) ⟨rfl, rfl, rfl, rfl, fun _ => .inl rfl⟩
  subst h0
  constructor
  case instrsFresh =>
    intro ref
    rcases inv.entry ref with e | ⟨_, _, _, _, hs⟩
    · rw [e]; exact har.ifresh ref
    · exact hs.1
  case datasFresh => intro ref; rw [inv.datas]; exact har.dfresh ref
  case instrPos =>
    intro pre src ref post pre' src' post' hs hs'
    rw [ar_instrPos har hs hs']
  case instrKnown =>
    intro pre src ref post hs hk c hc
    rw [(matchKnown_congr st.decls D _ inv.rd (fun r => by rw [sym_of_symbols_eq inv.syms r]) _ 64).1]
    -- the entry was stored at a node that refers to it: that is this node
    rcases inv.entry ref with e | ⟨pre1, src1, post1, hs1, hst⟩
    · rw [e, har.iknown ref] at hk; cases hk
    · rw [← ar_instrPos har hs hs1]; exact hst.2 hk c hc
  case dataKnown =>
    intro pre sz es refs post k hs hk hkn
    rwa [inv.datas, har.dpos hs hk, har.dknown hs hk] at hkn
  case dataPos =>
    intro pre sz es refs post k pre' sz' es' refs' post' k' hs hs' hk hk' hr
    exact ar_dataPos har hs hs' hk hk' hr
  case labelNotKnown => exact hl
  case j => exact hj

theorem defineRemaining_ar {d : Decls} {defs defs' : Defs} {nodes nodes' : List AstNode}
    (hi : defs.instrs = []) (hd : defs.datas = [])
    (h : defineRemaining d defs nodes = .ok (defs', nodes')) : AR defs' nodes' := by
  obtain ⟨banks, ruledefs, e⟩ := defineRemaining_ok h
  rw [show defs' = (defs', nodes').1 from rfl, show nodes' = (defs', nodes').2 from rfl, e]
  refine List.foldlRecOn nodes assignRef (motive := fun a => AR a.1 a.2) ?_ fun a ha n _ => assignRef_ar a.1 a.2 n ha
  exact ⟨hi, hd, .nil, .nil⟩

theorem frontEndPre_ar {opts : Opts} {fs : SrcFiles} {roots : List (List Char)} {d : Decls} {defs : Defs} {nodes : List AstNode}
    (hp : frontEndPre opts fs roots = .ok (d, defs, nodes)) : AR defs nodes :=
  frontEndPre_inv (fun _ defs _ => defs.instrs = [] ∧ defs.datas = []) (fun _ defs l => AR defs l) (fun _ _ => ⟨rfl, rfl⟩)
    (fun r hp => by rw [resolveConstantsSimple_frame r.consts, defineSymbols_frame]; exact hp)
    (fun hr hp => defineRemaining_ar hp.1 hp.2 hr) hp

def Flagged (d : Decls) (defs : Defs) : Prop :=
  ∀ r, (defs.sym r).known = true →
    (r < d.symbols.decls.length ∧
      ((d.symbols.decls.getD r default).kind = .constant ∨ (d.symbols.decls.getD r default).kind = .function)) ∧
    ((defs.sym r).value ≠ .unknown → (defs.sym r).resolved = true)

theorem Flagged.write {d : Decls} {defs defs' : Defs} (h : Flagged d defs) (r : Nat) (sd : SymDef)
    (hs : ∀ r', defs'.sym r' = defs.sym r' ∨ (r' = r ∧ defs'.sym r' = sd))
    (hsd : sd.known = true → (r < d.symbols.decls.length ∧
        ((d.symbols.decls.getD r default).kind = .constant ∨ (d.symbols.decls.getD r default).kind = .function)) ∧
      (sd.value ≠ .unknown → sd.resolved = true)) : Flagged d defs' := fun r' => by
  rcases hs r' with e | ⟨rfl, e⟩ <;> rw [e]
  · exact h r'
  · exact hsd

theorem sym_padset_or (defs : Defs) (r : Nat) (sd : SymDef) (r' : Nat) :
    ({ defs with symbols := (padTo defs.symbols r none).set r (some sd) } : Defs).sym r' = defs.sym r' ∨
      (r' = r ∧ ({ defs with symbols := (padTo defs.symbols r none).set r (some sd) } : Defs).sym r' = sd) := by
  rw [sym_padset]
  by_cases h : r' = r
  · exact .inr ⟨h, if_pos h⟩
  · exact .inl (if_neg h)

/-- `define_symbols` flags constants only, and gives no value; `resolve_constants_simple` keeps the flags, and marks a
    flagged symbol when it gives it a value -/
theorem Flagged.round {opts : Opts} (ho : opts.optStatic = true) {d defs nodes d1 n1 defs2 cnt nodes2 ifs}
    (r : Round opts d defs nodes d1 n1 defs2 cnt nodes2 ifs) (hk1 : KInv d1.symbols n1)
    (fl : Flagged d defs) : Flagged d1 defs2 := by
  have ext := (collectAll_steps r.collect).ext
  have fl1 : Flagged d1 defs := fun r hr =>
    ⟨⟨Nat.lt_of_lt_of_le (fl r hr).1.1 ext.1, by rw [ext.kind (fl r hr).1.1]; exact (fl r hr).1.2⟩, (fl r hr).2⟩
  have fl2 : Flagged d1 (defineSymbols defs n1) := by
    rw [defineSymbols_eq]
    refine List.foldlRecOn n1 defineStep (motive := Flagged d1) fl1 fun x hx n hn => ?_
    rcases defineStep_spec x n with ⟨e, _⟩ | ⟨lv, nm, kind, ne, r, known, rfl, _, hc, hl, e⟩ <;> rw [e]
    · exact hx
    · refine hx.write r _ (sym_padset_or x r _) fun hkn => ⟨?_, fun hv => absurd rfl hv⟩
      cases kind with
      | label => cases (hl rfl).symm.trans hkn
      | constant e => exact ⟨(hk1 _ hn).1, .inl (hk1 _ hn).2⟩
  refine resolveConstantsSimple_ind opts d1 (Flagged d1) ?_ ?_ fl2 r.consts
  · intro x _ _ _ _ r dv _ hx _ _
    exact hx.write r _ (sym_setSym x r · _) fun hkn => ⟨(hx r hkn).1, fun _ => rfl⟩
  · intro x _ _ _ _ r v _ hx _ _ _
    refine hx.write r _ (sym_setSym x r · _) fun hkn => ?_
    have hkn : (x.sym r).known = true := writeOf_known opts _ v ▸ hkn
    refine ⟨(hx r hkn).1, fun hv => ?_⟩
    have hv : (v != Value.unknown) = true := bne_iff_ne.2 (writeOf_value opts _ v ▸ hv)
    simp [writeOf_eq, ho, hkn, hv]

theorem Flagged.defineRemaining {d : Decls} {defs defs' : Defs} {nodes nodes' : List AstNode} (hk : KInv d.symbols nodes)
    (fl : Flagged d defs) (h : defineRemaining d defs nodes = .ok (defs', nodes')) : Flagged d defs' :=
  defineRemaining_ind (Flagged d)
    (fun x _ _ _ r _ hn hx => hx.write r _ (sym_padset_or x r _) fun _ => ⟨⟨(hk _ hn).1, .inr (hk _ hn).2⟩, fun _ => rfl⟩)
    (fun x y e hx => by simpa only [Flagged, sym_of_symbols_eq e] using hx) fl h

theorem frontEndPre_flagged {opts : Opts} (ho : opts.optStatic = true) {fs : SrcFiles} {roots : List (List Char)}
    {d : Decls} {defs : Defs} {nodes : List AstNode} (hp : frontEndPre opts fs roots = .ok (d, defs, nodes)) : Flagged d defs :=
  frontEndPre_inv (fun d defs l => KInv d.symbols l ∧ Flagged d defs) (fun d defs _ => Flagged d defs)
    (fun _ parsed => ⟨KInv.init _ parsed, fun _ hr => (by cases hr)⟩)
    (fun r hp => ⟨KInv.round r hp.1, hp.2.round ho r (collectAll_kinv hp.1 r.collect)⟩)
    (fun hr hp => hp.2.defineRemaining hp.1 hr) hp

theorem frontEnd_frontOK (opts : Opts) (ho : opts.optStatic = true) (fs : SrcFiles) (roots : List (List Char))
    (st : Static) (nodes : List AstNode) (defs0 : Defs)
    (h : frontEnd opts fs roots = .ok (st, nodes, defs0)) : FrontOK st nodes defs0 := by
  obtain ⟨d, defsR, hp, hm, rfl⟩ := frontEnd_ok h
  have fl := frontEndPre_flagged ho hp
  have hs : ∀ r, defs0.sym r = defsR.sym r := sym_of_symbols_eq (by rw [← matchAll_symbols opts d defsR nodes, hm])
  refine matchAll_frontOK opts _ defsR nodes (frontEndPre_ar hp) defs0 (by rw [hm]) (fun l nm ne r hm => ?_)
    (fun r => by rw [hs]; exact fun hk => (fl r hk).2)
  -- a flagged symbol is a constant or a function, the symbol of a label node is a label
  have kn := frontEndPre_kinv hp _ hm
  cases hk : (defs0.sym r).known with
  | false => rfl
  | true =>
    obtain ⟨⟨_, hc | hc⟩, _⟩ := fl r (hs r ▸ hk) <;> rw [kn.2] at hc <;> cases hc

theorem uniq_of_ar (df : Defs) (nodes : List AstNode) (h : AR df nodes) : Uniq nodes := by
  constructor
  case instr =>
    intro pre src ref post hs src' hm
    obtain ⟨p1, p2, hs'⟩ := split_after hs hm
    have e := (h.ipos hs).symm.trans (h.ipos hs')
    rw [countI_append] at e
    simp only [countI] at e
    omega
  case dataIn =>
    intro sz es refs hm k1 k2 hk1 hk2 heq
    obtain ⟨pre, post, hs⟩ := List.append_of_mem hm
    rw [h.dpos hs hk1, h.dpos hs hk2] at heq
    omega
  case dataOut =>
    intro pre sz es refs post hs sz' es' refs' hm k k' hk hk' heq
    obtain ⟨p1, p2, hs'⟩ := split_after hs hm
    rw [h.dpos hs hk, h.dpos hs' hk', countD_append] at heq
    simp only [countD] at heq
    omega

theorem frontEnd_uniq (opts : Opts) (fs : SrcFiles) (roots : List (List Char)) (st : Static) (nodes : List AstNode) (defs0 : Defs)
    (h : frontEnd opts fs roots = .ok (st, nodes, defs0)) : Uniq nodes := by
  obtain ⟨_, defsR, hp, _⟩ := frontEnd_ok h
  exact uniq_of_ar defsR nodes (frontEndPre_ar hp)

end Casm
