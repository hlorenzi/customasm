import Casm.Proofs.CondValues
/-!
# Casm.Proofs.CondLoop — the first loop of `assemble` selects arms as the final state decides

`Sel d defs ns out`: `out` is `ns` with every conditional whose condition `eval_simple` decides **in the one
state `(d, defs)`** replaced by the selected arm, recursively; conditionals that state does not decide stay.
The loop splices conditionals round by round, each in the state of its round; since a decided condition keeps
its value in every later state (`evalSimple_later`, `round_later`), the node list the loop ends with is the
selection **by the final state** of the node list it started from (`declLoop_selects`).
-/
namespace Casm
open Casm.C16

theorem fresh_fresh (n : AstNode) : n.fresh.fresh = n.fresh := by cases n <;> rfl

theorem fresh_ifDir (c : Expr) (t : List AstNode) (f : Option (List AstNode)) : (AstNode.ifDir c t f).fresh = .ifDir c t f := rfl

theorem map_fresh_fresh (l : List AstNode) : (l.map AstNode.fresh).map AstNode.fresh = l.map AstNode.fresh := by
  rw [List.map_map]
  congr 1
  funext n
  exact fresh_fresh n

theorem collectAll_fresh (d d' : Decls) (nodes nodes' : List AstNode) (h : collectAll d nodes = .ok (d', nodes')) :
    nodes'.map AstNode.fresh = nodes.map AstNode.fresh :=
  (collectAll_steps h).fresh

mutual
inductive Sel (d : Decls) (defs : Defs) : List AstNode → List AstNode → Prop
  | nil : Sel d defs [] []
  | cons {n : AstNode} {ns o os : List AstNode} : SelNode d defs n o → Sel d defs ns os → Sel d defs (n :: ns) (o ++ os)
inductive SelNode (d : Decls) (defs : Defs) : AstNode → List AstNode → Prop
  | yes {c : Expr} {t : List AstNode} {f : Option (List AstNode)} {o : List AstNode} :
      evalSimple d defs c = .ok (.bool true) → Sel d defs (t.map AstNode.fresh) o → SelNode d defs (.ifDir c t f) o
  | no {c : Expr} {t : List AstNode} {f : Option (List AstNode)} {o : List AstNode} :
      evalSimple d defs c = .ok (.bool false) → Sel d defs ((f.getD []).map AstNode.fresh) o → SelNode d defs (.ifDir c t f) o
  | keep {n : AstNode} : spliceOne d defs n = [n] → SelNode d defs n [n]
end

theorem Sel.append {d : Decls} {defs : Defs} {a b oa ob : List AstNode} (ha : Sel d defs a oa) (hb : Sel d defs b ob) :
    Sel d defs (a ++ b) (oa ++ ob) := by
  induction a generalizing oa with
  | nil => cases ha; exact hb
  | cons n ns ih =>
    cases ha with
    | cons hn hs =>
      rw [List.cons_append, List.append_assoc]
      exact Sel.cons hn (ih hs)

theorem Sel.split {d : Decls} {defs : Defs} {a b out : List AstNode} (h : Sel d defs (a ++ b) out) :
    ∃ oa ob, out = oa ++ ob ∧ Sel d defs a oa ∧ Sel d defs b ob := by
  induction a generalizing out with
  | nil => exact ⟨[], out, rfl, Sel.nil, h⟩
  | cons n ns ih =>
    rw [List.cons_append] at h
    cases h with
    | cons hn hs =>
      obtain ⟨oa, ob, he, h1, h2⟩ := ih hs
      exact ⟨_ ++ oa, ob, by rw [he, List.append_assoc], Sel.cons hn h1, h2⟩

theorem sel_singleton {d : Decls} {defs : Defs} {n : AstNode} {o : List AstNode} (h : Sel d defs [n] o) : SelNode d defs n o := by
  cases h with
  | cons hn hs => cases hs; rw [List.append_nil]; exact hn

theorem Sel.id_of_undecided {d : Decls} {defs : Defs} (ns : List AstNode) (h : ∀ n ∈ ns, spliceOne d defs n = [n]) : Sel d defs ns ns := by
  induction ns with
  | nil => exact Sel.nil
  | cons n rest ih =>
    exact Sel.cons (SelNode.keep (h n List.mem_cons_self)) (ih (fun m hm => h m (List.mem_cons_of_mem _ hm)))

/-- selecting by a later state after one round in an earlier state is selecting by the later state -/
theorem Sel.absorb_round {d0 : Decls} {defs0 : Defs} {d : Decls} {defs : Defs} (hl : Later d0 defs0 d defs) :
    ∀ (ns out : List AstNode), Sel d defs (ns.flatMap (spliceOne d0 defs0)) out → Sel d defs ns out := by
  intro ns
  induction ns with
  | nil => intro out h; exact h
  | cons n rest ih =>
    intro out h
    rw [List.flatMap_cons] at h
    obtain ⟨oa, ob, he, h1, h2⟩ := h.split
    rw [he]
    refine Sel.cons ?_ (ih ob h2)
    -- the contribution of `n`: kept by the earlier state, or an arm that the later state selects as well
    rcases spliceOne_cases d0 defs0 n with e | ⟨c, t, f, b, rfl, hc, e⟩ <;> rw [e] at h1
    · exact sel_singleton h1
    · have hst := evalSimple_later d0 defs0 d defs hl c (.bool b) hc rfl
      cases b
      · exact SelNode.no hst h1
      · exact SelNode.yes hst h1

theorem spliceOne_of_not_if (d : Decls) (defs : Defs) (n : AstNode) (h : ∀ c t f, n ≠ .ifDir c t f) : spliceOne d defs n = [n] := by
  cases n with
  | ifDir c t f => exact absurd rfl (h c t f)
  | _ => rfl

theorem spliceOne_fresh (d : Decls) (defs : Defs) (n : AstNode) :
    (spliceOne d defs n).map AstNode.fresh = spliceOne d defs n.fresh := by
  cases n with
  | ifDir c t f =>
    rw [fresh_ifDir]
    unfold spliceOne
    simp only
    split
    · exact map_fresh_fresh _
    · exact map_fresh_fresh _
    · rfl
  | _ => rfl

theorem flatMap_splice_fresh (d : Decls) (defs : Defs) (ns : List AstNode) :
    (ns.flatMap (spliceOne d defs)).map AstNode.fresh = (ns.map AstNode.fresh).flatMap (spliceOne d defs) := by
  simp only [List.map_flatMap, List.flatMap_map, spliceOne_fresh]

theorem spliceOne_fresh_undecided (d : Decls) (defs : Defs) (n : AstNode) (h : spliceOne d defs n = [n]) :
    spliceOne d defs n.fresh = [n.fresh] := by
  rw [← spliceOne_fresh, h]; rfl

/-- the lists are compared with their references erased: references are the only thing `collect` changes -/
theorem declLoop_selects (opts : Opts) :
    ∀ (fuel : Nat) (d : Decls) (defs : Defs) (nodes : List AstNode) (prev : Nat) (d' : Decls) (defs' : Defs) (nodes' : List AstNode),
      FInv opts d defs nodes → CInv opts d defs nodes → Built d.symbols →
      declLoop opts fuel d defs nodes prev = .ok (d', defs', nodes') →
      Later d defs d' defs' ∧ Sel d' defs' (nodes.map AstNode.fresh) (nodes'.map AstNode.fresh) ∧
        ∀ n ∈ nodes', spliceOne d' defs' n = [n] := by
  intro fuel d defs nodes prev d' defs' nodes' fi ci hb h
  refine declLoop_ind opts (fun d defs nodes d' defs' nodes' => FInv opts d defs nodes → CInv opts d defs nodes → Built d.symbols →
    Later d defs d' defs' ∧ Sel d' defs' (nodes.map AstNode.fresh) (nodes'.map AstNode.fresh) ∧
      ∀ n ∈ nodes', spliceOne d' defs' n = [n]) ?_ ?_ fuel h fi ci hb
  · -- the last round splices nothing: the list stays, and the state decides none of its conditionals
    intro d defs nodes d1 n1 defs2 cnt nodes2 r fi ci hb
    obtain ⟨hl, _⟩ := round_later fi ci hb r.collect r.consts
    obtain ⟨hsp, hz⟩ := resolveIfs_ok r.ifs
    have hund := hz rfl
    have hid : nodes2 = n1 := by rw [hsp, List.flatMap_def, List.map_congr_left hund, ← List.flatMap_def, List.flatMap_singleton']
    rw [hid, ← collectAll_fresh d d1 nodes n1 r.collect]
    refine ⟨hl, Sel.id_of_undecided _ fun m hm => ?_, hund⟩
    obtain ⟨n, hn, rfl⟩ := List.mem_map.mp hm
    exact spliceOne_fresh_undecided d1 defs2 n (hund n hn)
  · -- a round, then the rest of the loop: what the round decided, the final state decides alike
    intro d defs nodes d1 n1 defs2 cnt nodes2 ifs d' defs' nodes' r ih fi ci hb
    obtain ⟨hl, -, -, c3, hb1⟩ := round_later fi ci hb r.collect r.consts
    obtain ⟨hl2, hs2, hu2⟩ := ih (FInv.round r fi).1 (c3.sub (resolveIfs_refSub r.ifs)) hb1
    refine ⟨hl.trans hl2, ?_, hu2⟩
    rw [← collectAll_fresh d d1 nodes n1 r.collect]
    refine Sel.absorb_round hl2 _ _ ?_
    rw [← flatMap_splice_fresh, ← (resolveIfs_ok r.ifs).1]
    exact hs2

end Casm
