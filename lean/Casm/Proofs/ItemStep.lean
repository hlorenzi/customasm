import Casm.Model.Assemble
import Casm.Proofs.ExceptLemmas
/-!
# Casm.Proofs.ItemStep — the eight item resolvers in one shape

Every resolver of `Casm/Model/Assemble.lean` evaluates something (an expression, the address, the
candidate encodings), decides from that value, the pass flags, the current bank and the item's *own*
entry what the item's new entry (`none`: the state stays as it is), the stability flag and the
messages are (a `Verdict`, computed by the pure `labelStep` … `assertStep`), and writes that entry
(`Slot.commit`).  `resolveX_eq` puts each resolver in this form; `dispatch_stepped` reads a
successful step of any node in it (`Stepped`).
-/
namespace Casm

abbrev Verdict (α : Type) := Except String (Option α × Bool × List String)

structure Slot (α : Type) where
  get : Defs → α
  set : Defs → α → Defs

def symSlot (r : Nat) : Slot SymDef := ⟨fun d => d.sym r, fun d x => d.setSym r x⟩
def instrSlot (r : Nat) : Slot InstrDef := ⟨fun d => d.instrs.getD r default, fun d x => { d with instrs := d.instrs.set r x }⟩
def dataSlot (r : Nat) : Slot DataDef := ⟨fun d => d.datas.getD r default, fun d x => { d with datas := d.datas.set r x }⟩
def resSlot (r : Nat) : Slot Nat := ⟨fun d => d.res.getD r 0, fun d x => { d with res := d.res.set r x }⟩
def alignSlot (r : Nat) : Slot Nat := ⟨fun d => d.aligns.getD r 0, fun d x => { d with aligns := d.aligns.set r x }⟩
def addrSlot (r : Nat) : Slot Int := ⟨fun d => d.addrs.getD r 0, fun d x => { d with addrs := d.addrs.set r x }⟩
/-- `#assert` has no entry -/
def noSlot : Slot Unit := ⟨fun _ => (), fun d _ => d⟩

def Slot.commit {α} (L : Slot α) (d : Defs) (v : Verdict α) : ItemRes :=
  v.map fun x => (x.1.elim d (L.set d), x.2)

def skipped {α} : Verdict α := .ok (none, true, [])

def converge {α} (last : Bool) (msg : String) (changed : Bool) (a : α) (check : Except String Unit := .ok ()) : Verdict α :=
  if changed then .ok (some a, false, if last then [msg] else []) else check.map fun _ => (some a, true, [])

def labelStep (last : Bool) (s : SymDef) (a : Int) : Verdict SymDef :=
  converge last "label address did not converge" (!match s.value with | .int x => x.v == a | _ => false)
    { s with value := .int ⟨a, none⟩ }

/-- `mark`: the static-value optimisation acts (it is switched on and this is the first pass) -/
def constantStep (mark last : Bool) (s : SymDef) (v : Value) : Verdict SymDef :=
  converge last "constant value did not converge" (!valuesStable v s.value) { s with value := v, resolved := mark && s.known }

def instrStep (mark last : Bool) (ins : InstrDef) (encs : Option (List (Nat × BI))) (reported : List String) (definite : Bool) :
    Verdict InstrDef :=
  match encs.bind fun l => l.head?.map (·.2) with
  | some e =>
    if mark && ins.known && encs.any (·.length == 1) && definite then
      .ok (some { ins with encoding := e, resolved := true }, true, reported)
    else if !(e.v == ins.encoding.v && e.size == ins.encoding.size) then
      .ok (some { ins with encoding := e }, false,
        reported ++ (if last && encs.isSome then ["instruction encoding did not converge"] else []))
    else .ok (some { ins with encoding := e }, true, reported)
  | none => .ok (none, false, reported)

def storeStep (mark last : Bool) (x : DataDef) : Option BI → Verdict DataDef
  | some b =>
    if mark && x.known && b.size.isSome then .ok (some { x with encoding := b, resolved := true }, true, [])
    else converge last "data element did not converge" (!(b.v == x.encoding.v && b.size == x.encoding.size)) { x with encoding := b }
  | none => .ok (none, false, if last then ["data element did not converge"] else [])

def dataStep (mark last : Bool) (elemSize : Option Nat) (x : DataDef) (v : Value) : Verdict DataDef :=
  (dataEnc (last || x.known) v).bind fun enc =>
    (dataCheck (last || x.known) elemSize enc).bind fun _ => storeStep mark last x (enc.map (dataSlice elemSize))

def resVal : Value → Except String Nat
  | .int b => if 0 ≤ b.v ∧ b.v < (2 ^ 32 : Nat) then .ok b.v.toNat else .error outOfRange
  | .str s en => if 0 ≤ (strToBigint s en).v ∧ (strToBigint s en).v < (2 ^ 32 : Nat) then .ok (strToBigint s en).v.toNat else .error outOfRange
  | .unknown => .ok 0
  | .failed _ => .ok 0
  | _ => .error "expected integer"

def resStep (last : Bool) (unit prev : Nat) (v : Value) : Verdict Nat :=
  (resVal v).bind fun n =>
    if n * unit ≥ USIZE_MAX1 then .error outOfRange
    else converge last "reserve size did not converge" (n * unit != prev) (n * unit)

def alignVal : Value → Except String Nat
  | .int b => match toUsize b.v with | some n => .ok n | none => .error outOfRange
  | .unknown => .ok 0
  | .failed _ => .ok 0
  | _ => .error "expected non-negative integer"

def alignStep (last : Bool) (prev : Nat) (v : Value) : Verdict Nat :=
  (alignVal v).bind fun n =>
    converge last "alignment size did not converge" (n != prev) n
      (if last && n == 0 then .error "invalid alignment size" else .ok ())

def addrVal : Value → Except String Int
  | .int b => .ok b.v
  | .str s en => .ok (strToBigint s en).v
  | .unknown => .ok 0
  | .failed _ => .ok 0
  | _ => .error "expected integer"

def addrInBank (b : Bank) (a : Int) : Except String Unit :=
  if a < b.addrStart then .error "address is out of bank range"
  else if (a - b.addrStart) * b.addrUnit ≥ (2 ^ 64 : Nat) then .error outOfRange
  else match b.size with
    | some sz => if ((a - b.addrStart) * b.addrUnit).toNat ≥ sz then .error "address is out of bank range" else .ok ()
    | none => .ok ()

def addrStep (last : Bool) (b : Bank) (prev : Int) (v : Value) : Verdict Int :=
  (addrVal v).bind fun a =>
    converge last "address did not converge" (a != prev) a (if last then addrInBank b a else .ok ())

def assertStep : Value → Verdict Unit
  | .bool true => .ok (none, true, [])
  | .bool false => .ok (none, true, ["assertion failed"])
  | _ => .error "expected boolean"

theorem commit_ok {α} {L : Slot α} {d d' : Defs} {V : Verdict α} {s : Bool} {r : List String}
    (h : L.commit d V = .ok (d', s, r)) : ∃ o, V = .ok (o, s, r) ∧ d' = o.elim d (L.set d) := by
  cases V with
  | error m => cases h
  | ok y => obtain ⟨o, s', r'⟩ := y; cases h; exact ⟨o, rfl, rfl⟩

theorem commit_bind_ok {α β} {L : Slot α} {d d' : Defs} {x : Except String β} {f : β → Verdict α} {s : Bool} {r : List String}
    (h : L.commit d (x.bind f) = .ok (d', s, r)) : ∃ b o, x = .ok b ∧ f b = .ok (o, s, r) ∧ d' = o.elim d (L.set d) := by
  obtain ⟨o, hV, hd⟩ := commit_ok h
  obtain ⟨b, hb, hf⟩ := bind_ok_inv hV
  exact ⟨b, o, hb, hf, hd⟩

theorem commit_get {α} (L : Slot α) (d : Defs) (s : Bool) (r : List String) (hL : L.set d (L.get d) = d) :
    L.commit d (.ok (some (L.get d), s, r)) = .ok (d, s, r) :=
  congrArg (fun x => Except.ok (x, s, r)) hL

theorem elim_get {α} {L : Slot α} {d : Defs} {o : Option α} (hL : L.set d (L.get d) = d) (ho : ∀ a, o = some a → a = L.get d) :
    o.elim d (L.set d) = d := by
  cases o with
  | none => rfl
  | some a => rw [ho a rfl]; exact hL

theorem converge_ok {α} {last : Bool} {msg : String} {changed : Bool} {a : α} {check : Except String Unit}
    {o : Option α} {s : Bool} {r : List String} (h : converge last msg changed a check = .ok (o, s, r)) :
    o = some a ∧ s = !changed ∧ r = if changed && last then [msg] else [] := by
  cases changed with
  | true => cases h; exact ⟨rfl, rfl, rfl⟩
  | false =>
    cases check with
    | error m => cases h
    | ok u => cases h; exact ⟨rfl, rfl, rfl⟩

theorem converge_flags {α} (last : Bool) (msg : String) (changed : Bool) (a a' : α) (check : Except String Unit) :
    (converge last msg changed a check).map (·.2) = (converge last msg changed a' check).map (·.2) := by
  cases changed with
  | true => rfl
  | false => cases check <;> rfl

/-! The resolvers are these steps (`resolveX_eq`): `commit` is pushed through `converge`, `if` and `bind` until
the step form reads as the resolver's own ladder. -/

private theorem commit_converge {α} (L : Slot α) (d : Defs) (last : Bool) (msg : String) (changed : Bool) (a : α)
    (check : Except String Unit) :
    L.commit d (converge last msg changed a check) =
      if changed then .ok (L.set d a, false, if last then [msg] else [])
      else check.bind fun _ => .ok (L.set d a, true, []) := by
  cases changed with
  | true => rfl
  | false => cases check <;> rfl

private theorem commit_error {α} (L : Slot α) (d : Defs) (m : String) : L.commit d (.error m) = .error m := rfl

private theorem commit_ite {α} (L : Slot α) (d : Defs) (c : Prop) [Decidable c] (A B : Verdict α) :
    L.commit d (if c then A else B) = if c then L.commit d A else L.commit d B := by
  split <;> rfl

private theorem commit_bind {α β} (L : Slot α) (d : Defs) (x : Except String β) (f : β → Verdict α) :
    L.commit d (x.bind f) = match x with | .error m => .error m | .ok a => L.commit d (f a) := by
  cases x <;> rfl

theorem resolveLabel_eq (st : Static) (d : Defs) (ctx : RCtx) (ref : Nat) :
    resolveLabel st d ctx ref =
      (symSlot ref).commit d ((evalAddress d ctx ctx.canGuess).bind (labelStep ctx.last (d.sym ref))) := by
  unfold resolveLabel
  cases evalAddress d ctx ctx.canGuess with
  | error m => rfl
  | ok a => exact (commit_converge (symSlot ref) d _ _ _ _ (.ok ())).symm

theorem resolveConstant_eq (st : Static) (d : Defs) (ctx : RCtx) (ref : Nat) (e : Expr) :
    resolveConstant st d ctx ref e =
      (symSlot ref).commit d (if (d.sym ref).resolved then skipped else
        (resolverEval st d ctx {} e).bind fun x => constantStep (st.opts.optStatic && ctx.first) ctx.last (d.sym ref) x.1) := by
  unfold resolveConstant
  dsimp only
  cases (d.sym ref).resolved with
  | true => rfl
  | false =>
    cases resolverEval st d ctx {} e with
    | error m => rfl
    | ok x => exact (commit_converge (symSlot ref) d _ _ _ _ (.ok ())).symm

theorem resolveRes_eq (st : Static) (d : Defs) (ctx : RCtx) (ref : Nat) (e : Expr) :
    resolveRes st d ctx ref e =
      (resSlot ref).commit d ((resolverEval st d ctx {} e).bind fun x =>
        resStep ctx.last (d.banks.getD ctx.bank defaultBank).addrUnit (d.res.getD ref 0) x.1) := by
  unfold resolveRes
  cases resolverEval st d ctx {} e with
  | error m => rfl
  | ok x =>
    obtain ⟨v, c⟩ := x
    simp only [resStep, commit_bind, commit_ite, commit_error, commit_converge, bind_ok]
    -- `resVal v` is the resolver's inner `match` on `v`; where it is an `if`, both sides scrutinise the same one
    cases v with
    | int b | str s en => dsimp only [resVal]; split <;> (rename_i h; rw [h] <;> rfl)
    | _ => rfl

theorem resolveAlign_eq (st : Static) (d : Defs) (ctx : RCtx) (ref : Nat) (e : Expr) :
    resolveAlign st d ctx ref e =
      (alignSlot ref).commit d ((resolverEval st d ctx {} e).bind fun x => alignStep ctx.last (d.aligns.getD ref 0) x.1) := by
  unfold resolveAlign
  cases resolverEval st d ctx {} e with
  | error m => rfl
  | ok x =>
    obtain ⟨v, c⟩ := x
    simp only [alignStep, commit_bind, commit_converge, bind_ite, bind_error, bind_ok]
    cases v with
    | int b => dsimp only [alignVal]; cases toUsize b.v <;> rfl
    | _ => rfl

theorem resolveAddr_eq (st : Static) (d : Defs) (ctx : RCtx) (ref : Nat) (e : Expr) :
    resolveAddr st d ctx ref e =
      (addrSlot ref).commit d ((resolverEval st d ctx {} e).bind fun x =>
        addrStep ctx.last (d.banks.getD ctx.bank defaultBank) (d.addrs.getD ref 0) x.1) := by
  unfold resolveAddr
  cases resolverEval st d ctx {} e with
  | error m => rfl
  | ok x =>
    obtain ⟨v, c⟩ := x
    simp only [addrStep, commit_bind, commit_converge]
    -- `addrInBank` is the resolver's ladder of range checks; its last rung matches on the bank's size
    generalize d.banks.getD ctx.bank defaultBank = b
    obtain ⟨start, unit, la, size, outp, fill⟩ := b
    cases size <;> simp only [addrInBank, bind_ite, bind_error, bind_ok] <;> cases v <;> rfl

theorem resolveAssert_eq (st : Static) (d : Defs) (ctx : RCtx) (e : Expr) :
    resolveAssert st d ctx e =
      noSlot.commit d (if !ctx.last then .ok (none, false, []) else
        (resolverEval st d ctx {} e).bind fun x => assertStep x.1) := by
  unfold resolveAssert
  cases ctx.last with
  | false => rfl
  | true =>
    cases resolverEval st d ctx {} e with
    | error m => rfl
    | ok x =>
      obtain ⟨v, c⟩ := x
      cases v with
      | bool b => cases b <;> rfl
      | _ => rfl

theorem dataStore_eq (st : Static) (d : Defs) (ctx : RCtx) (ref : Nat) (sliced : Option BI) :
    dataStore st d ctx ref sliced =
      (dataSlot ref).commit d (storeStep (st.opts.optStatic && ctx.first) ctx.last (d.datas.getD ref default) sliced) := by
  unfold dataStore
  cases sliced with
  | none => rfl
  | some b =>
    simp only [storeStep, commit_ite, commit_converge, bind_ok]
    rfl

theorem resolveData_eq (st : Static) (d : Defs) (ctx : RCtx) (ref : Nat) (elemSize : Option Nat) (e : Expr) :
    resolveData st d ctx ref elemSize e =
      (dataSlot ref).commit d (if (d.datas.getD ref default).resolved then skipped else
        (resolverEval st d ctx {} e).bind fun x =>
          dataStep (st.opts.optStatic && ctx.first) ctx.last elemSize (d.datas.getD ref default) x.1) := by
  unfold resolveData
  dsimp only
  cases (d.datas.getD ref default).resolved with
  | true => rfl
  | false =>
    cases resolverEval st d ctx {} e with
    | error m => rfl
    | ok x =>
      obtain ⟨v, c⟩ := x
      simp only [dataStep, bind_ok, Bool.false_eq_true, if_false]
      cases dataEnc (ctx.last || (d.datas.getD ref default).known) v with
      | error m => rfl
      | ok enc =>
        simp only [bind_ok]
        cases dataCheck (ctx.last || (d.datas.getD ref default).known) elemSize enc with
        | error m => rfl
        | ok u => exact dataStore_eq st d ctx ref _

theorem resolveInstruction_eq (st : Static) (d : Defs) (ctx : RCtx) (ref : Nat) :
    resolveInstruction st d ctx ref =
      (instrSlot ref).commit d (if (d.instrs.getD ref default).resolved then skipped else
        (resolveEncoding st d evalFuel ctx ((d.instrs.getD ref default).cands.map (·.m)) {}).bind fun x =>
          instrStep (st.opts.optStatic && ctx.first) ctx.last (d.instrs.getD ref default) x.1 x.2
            (allDefinite st d ctx ((d.instrs.getD ref default).cands.map (·.m)))) := by
  unfold resolveInstruction instrStep
  dsimp only
  split
  · rfl
  · cases resolveEncoding st d evalFuel ctx ((d.instrs.getD ref default).cands.map (·.m)) {} with
    | error m => rfl
    | ok x =>
      obtain ⟨encs, reported⟩ := x
      simp only [bind_ok]
      cases encs with
      | none => rfl
      | some l =>
        cases (Option.bind (some l) fun l => l.head?.map (·.2)) with
        | none => rfl
        | some e => simp only [commit_ite]; rfl

theorem resStep_ok {last : Bool} {unit prev : Nat} {v : Value} {o : Option Nat} {s : Bool} {r : List String}
    (h : resStep last unit prev v = .ok (o, s, r)) :
    ∃ n, resVal v = .ok n ∧ n * unit < USIZE_MAX1 ∧ o = some (n * unit) ∧ s = !(n * unit != prev) ∧
      r = if (n * unit != prev) && last then ["reserve size did not converge"] else [] := by
  obtain ⟨n, hn, h⟩ := bind_ok_inv h
  split at h
  · cases h
  · exact ⟨n, hn, by omega, converge_ok h⟩

theorem alignStep_ok {last : Bool} {prev : Nat} {v : Value} {o : Option Nat} {s : Bool} {r : List String}
    (h : alignStep last prev v = .ok (o, s, r)) :
    ∃ n, alignVal v = .ok n ∧ o = some n ∧ s = !(n != prev) ∧
      r = if (n != prev) && last then ["alignment size did not converge"] else [] := by
  obtain ⟨n, hn, h⟩ := bind_ok_inv h
  exact ⟨n, hn, converge_ok h⟩

theorem addrStep_ok {last : Bool} {b : Bank} {prev : Int} {v : Value} {o : Option Int} {s : Bool} {r : List String}
    (h : addrStep last b prev v = .ok (o, s, r)) :
    ∃ a, addrVal v = .ok a ∧ o = some a ∧ s = !(a != prev) ∧
      r = if (a != prev) && last then ["address did not converge"] else [] := by
  obtain ⟨a, ha, h⟩ := bind_ok_inv h
  exact ⟨a, ha, converge_ok h⟩

theorem storeStep_ok {mark last : Bool} {x : DataDef} {v : Option BI} {o : Option DataDef} {s : Bool} {r : List String}
    (h : storeStep mark last x v = .ok (o, s, r)) :
    (∃ b, v = some b ∧ (mark && x.known && b.size.isSome) = true ∧
      o = some { x with encoding := b, resolved := true } ∧ s = true ∧ r = []) ∨
    (∃ b, v = some b ∧ (mark && x.known && b.size.isSome) = false ∧ o = some { x with encoding := b } ∧
      s = (b.v == x.encoding.v && b.size == x.encoding.size) ∧ (s = true ∨ last = false → r = [])) ∨
    (v = none ∧ o = none ∧ s = false ∧ (last = false → r = [])) := by
  cases v with
  | none => cases h; exact Or.inr (Or.inr ⟨rfl, rfl, rfl, fun hl => by rw [hl]; rfl⟩)
  | some b =>
    simp only [storeStep] at h
    split at h
    · rename_i hm; cases h; exact Or.inl ⟨b, rfl, hm, rfl, rfl, rfl⟩
    · rename_i hm
      obtain ⟨ho, hs, hr⟩ := converge_ok h
      refine Or.inr (Or.inl ⟨b, rfl, Bool.not_eq_true _ ▸ hm, ho, by rw [hs, Bool.not_not], fun hq => ?_⟩)
      rw [hr]
      rcases hq with hq | hq
      · rw [hs, Bool.not_eq_true'] at hq; rw [hq]; rfl
      · rw [hq, Bool.and_false]; rfl

theorem dataStep_ok {mark last : Bool} {sz : Option Nat} {x : DataDef} {v : Value} {y : Option DataDef × Bool × List String}
    (h : dataStep mark last sz x v = .ok y) :
    ∃ enc, dataEnc (last || x.known) v = .ok enc ∧ dataCheck (last || x.known) sz enc = .ok () ∧
      storeStep mark last x (enc.map (dataSlice sz)) = .ok y := by
  obtain ⟨enc, h1, h⟩ := bind_ok_inv h
  obtain ⟨_, h2, h⟩ := bind_ok_inv h
  exact ⟨enc, h1, h2, h⟩

theorem dataEnc_any (must : Bool) (v : Value) (b0 : BI) (h : dataEnc true v = .ok (some b0)) : dataEnc must v = .ok (some b0) := by
  cases v with
  | int b => exact h
  | str s en => exact h
  | _ => cases h

theorem dataCheck_any (must : Bool) (sz : Option Nat) (b0 : BI) (h : dataCheck true sz (some b0) = .ok ()) :
    dataCheck must sz (some b0) = .ok () := by
  cases must with
  | true => exact h
  | false => rfl

theorem instrStep_ok {mark last : Bool} {ins : InstrDef} {encs : Option (List (Nat × BI))} {rep : List String} {definite : Bool}
    {o : Option InstrDef} {s : Bool} {r : List String} (h : instrStep mark last ins encs rep definite = .ok (o, s, r)) :
    (∃ l e, encs = some l ∧ l.head? = some e ∧ (mark && ins.known && (l.length == 1) && definite) = true ∧
      o = some { ins with encoding := e.2, resolved := true } ∧ s = true ∧ r = rep) ∨
    (∃ l e, encs = some l ∧ l.head? = some e ∧ (mark && ins.known && (l.length == 1) && definite) = false ∧
      o = some { ins with encoding := e.2 } ∧ s = (e.2.v == ins.encoding.v && e.2.size == ins.encoding.size) ∧
      (s = true ∨ last = false → r = rep)) ∨
    (o = none ∧ s = false ∧ r = rep) := by
  cases encs with
  | none => cases h; exact Or.inr (Or.inr ⟨rfl, rfl, rfl⟩)
  | some l =>
    cases l with
    | nil => cases h; exact Or.inr (Or.inr ⟨rfl, rfl, rfl⟩)
    | cons e t =>
      simp only [instrStep, Option.bind_some, List.head?_cons, Option.map_some, Option.any_some] at h
      split at h
      · rename_i hm; cases h; exact Or.inl ⟨_, e, rfl, rfl, hm, rfl, rfl, rfl⟩
      · rename_i hm
        refine Or.inr (Or.inl ⟨_, e, rfl, rfl, Bool.not_eq_true _ ▸ hm, ?_⟩)
        split at h
        · rename_i hc
          cases h
          rw [Bool.not_eq_true'] at hc
          refine ⟨rfl, hc.symm, fun hq => ?_⟩
          rcases hq with hq | hq
          · cases hq
          · rw [hq]; exact List.append_nil _
        · rename_i hc
          cases h
          exact ⟨rfl, (by simpa using hc), fun _ => rfl⟩

/-! The static-value optimisation in a step.  With the mark a step is the step without it, or it stores the same
entry marked (`*_mark`).  Without the mark, a step given the value its entry holds stores the entry it found and
is stable (`*_same`): this is what the unoptimised assembler does at an item the optimising one has frozen. -/

theorem constantStep_mark (m last : Bool) (s : SymDef) (v : Value) :
    constantStep false last s v = constantStep m last s v ∨
    m = true ∧ s.known = true ∧ ∃ b r, constantStep m last s v = .ok (some { s with value := v, resolved := true }, b, r) ∧
      constantStep false last s v = .ok (some { s with value := v, resolved := false }, b, r) := by
  cases hm : m && s.known with
  | false => left; unfold constantStep; rw [hm]; rfl
  | true =>
    rw [Bool.and_eq_true] at hm
    refine .inr ⟨hm.1, hm.2, ?_⟩
    unfold constantStep converge
    rw [hm.1, hm.2]
    cases (!valuesStable v s.value) <;> exact ⟨_, _, rfl, rfl⟩

theorem instrStep_mark (m last : Bool) (ins : InstrDef) (encs : Option (List (Nat × BI))) (rep : List String) (definite : Bool) :
    instrStep false last ins encs rep definite = instrStep m last ins encs rep definite ∨
    m = true ∧ ins.known = true ∧ ∃ e b r, instrStep m last ins encs rep definite = .ok (some { ins with encoding := e, resolved := true }, true, rep) ∧
      instrStep false last ins encs rep definite = .ok (some { ins with encoding := e }, b, r) := by
  unfold instrStep
  cases (encs.bind fun l => l.head?.map (·.2)) with
  | none => exact .inl rfl
  | some e =>
    simp only [Bool.false_and, Bool.false_eq_true, if_false]
    by_cases hc : (m && ins.known && encs.any (·.length == 1) && definite) = true
    · rw [if_pos hc]
      simp only [Bool.and_eq_true] at hc
      refine .inr ⟨hc.1.1.1, hc.1.1.2, e, ?_⟩
      split <;> exact ⟨_, _, rfl, rfl⟩
    · rw [if_neg hc]; exact .inl rfl

theorem storeStep_mark (m last : Bool) (x : DataDef) (o : Option BI) :
    storeStep false last x o = storeStep m last x o ∨
    m = true ∧ x.known = true ∧ ∃ e b r, storeStep m last x o = .ok (some { x with encoding := e, resolved := true }, true, []) ∧
      storeStep false last x o = .ok (some { x with encoding := e }, b, r) := by
  cases o with
  | none => exact .inl rfl
  | some e =>
    simp only [storeStep, Bool.false_and, Bool.false_eq_true, if_false]
    by_cases hc : (m && x.known && e.size.isSome) = true
    · rw [if_pos hc]
      simp only [Bool.and_eq_true] at hc
      refine .inr ⟨hc.1.1, hc.1.2, e, ?_⟩
      unfold converge
      split <;> exact ⟨_, _, rfl, rfl⟩
    · rw [if_neg hc]; exact .inl rfl

theorem dataStep_mark (m last : Bool) (sz : Option Nat) (x : DataDef) (v : Value) :
    dataStep false last sz x v = dataStep m last sz x v ∨
    m = true ∧ x.known = true ∧ ∃ e b r, dataStep m last sz x v = .ok (some { x with encoding := e, resolved := true }, true, []) ∧
      dataStep false last sz x v = .ok (some { x with encoding := e }, b, r) := by
  unfold dataStep
  cases dataEnc (last || x.known) v with
  | error msg => exact .inl rfl
  | ok enc =>
    simp only [bind_ok]
    cases dataCheck (last || x.known) sz enc with
    | error msg => exact .inl rfl
    | ok u => exact storeStep_mark m last x _

theorem valuesStable_refl (v : Value) : valuesStable v v = true := by
  unfold valuesStable
  split <;> simp

theorem constantStep_same (last : Bool) (s : SymDef) (hr : s.resolved = false) :
    constantStep false last s s.value = .ok (some s, true, []) := by
  unfold constantStep converge
  rw [valuesStable_refl]
  cases s; cases hr; rfl

theorem instrStep_same (last : Bool) (ins : InstrDef) (l : List (Nat × BI)) (e : Nat × BI) (rep : List String) (definite : Bool)
    (hl : l.head? = some e) (he : ins.encoding = e.2) : instrStep false last ins (some l) rep definite = .ok (some ins, true, rep) := by
  unfold instrStep
  simp only [Option.bind_some, hl, Option.map_some, ← he, Bool.false_and, Bool.false_eq_true, if_false, beq_self_eq_true,
    Bool.and_self, Bool.not_true]

theorem dataStep_same (last : Bool) (sz : Option Nat) (x : DataDef) (v : Value) (b0 : BI) (h1 : dataEnc true v = .ok (some b0))
    (h2 : dataCheck true sz (some b0) = .ok ()) (he : x.encoding = dataSlice sz b0) :
    dataStep false last sz x v = .ok (some x, true, []) := by
  unfold dataStep
  rw [dataEnc_any _ v b0 h1, bind_ok, dataCheck_any _ sz b0 h2, bind_ok]
  simp only [Option.map_some, ← he, storeStep, Bool.false_and, Bool.false_eq_true, if_false, beq_self_eq_true, Bool.and_self,
    Bool.not_true, converge]
  rfl

def dispatch (st : Static) (defs : Defs) (ctx : RCtx) (n : AstNode) (k : Nat) : ItemRes :=
  match n with
  | .symbol _ _ kind _ (some ref) =>
    match kind with
    | .label => resolveLabel st defs ctx ref
    | .constant e => resolveConstant st defs ctx ref e
  | .instr _ (some ref) => resolveInstruction st defs ctx ref
  | .data sz es refs => resolveData st defs ctx (refs.getD k 0) sz (es.getD k default)
  | .res e (some ref) => resolveRes st defs ctx ref e
  | .align e (some ref) => resolveAlign st defs ctx ref e
  | .addr e (some ref) => resolveAddr st defs ctx ref e
  | .assert e => resolveAssert st defs ctx e
  | _ => .ok (defs, true, [])

def hasItem : AstNode → Bool
  | .symbol _ _ _ _ (some _) | .instr _ (some _) | .data .. | .res _ (some _) | .align _ (some _) | .addr _ (some _)
  | .assert _ => true
  | _ => false

theorem dispatch_noItem {n : AstNode} (hn : hasItem n = false) (st : Static) (d : Defs) (ctx : RCtx) (k : Nat) :
    dispatch st d ctx n k = .ok (d, true, []) := by
  unfold dispatch
  split <;> first | rfl | cases hn

/-- `he`: what was evaluated (its value is the constructor's first argument); `hs`: the verdict of the
    pure step -/
inductive Stepped (st : Static) (d : Defs) (ctx : RCtx) : AstNode → Nat → Defs → Bool → List String → Prop
  | label {l nm ne ref k o s r} (a : Int) (he : evalAddress d ctx ctx.canGuess = .ok a)
      (hs : labelStep ctx.last (d.sym ref) a = .ok (o, s, r)) :
      Stepped st d ctx (.symbol l nm .label ne (some ref)) k (o.elim d (d.setSym ref)) s r
  | constSkip {l nm e ne ref k} (hr : (d.sym ref).resolved = true) :
      Stepped st d ctx (.symbol l nm (.constant e) ne (some ref)) k d true []
  | const {l nm e ne ref k c o s r} (v : Value) (hr : (d.sym ref).resolved = false) (he : resolverEval st d ctx {} e = .ok (v, c))
      (hs : constantStep (st.opts.optStatic && ctx.first) ctx.last (d.sym ref) v = .ok (o, s, r)) :
      Stepped st d ctx (.symbol l nm (.constant e) ne (some ref)) k (o.elim d (d.setSym ref)) s r
  | instrSkip {src ref k} (hr : (d.instrs.getD ref default).resolved = true) :
      Stepped st d ctx (.instr src (some ref)) k d true []
  | instr {src ref k o s r} (encs : Option (List (Nat × BI))) (rep : List String) (hr : (d.instrs.getD ref default).resolved = false)
      (he : resolveEncoding st d evalFuel ctx ((d.instrs.getD ref default).cands.map (·.m)) {} = .ok (encs, rep))
      (hs : instrStep (st.opts.optStatic && ctx.first) ctx.last (d.instrs.getD ref default) encs rep
        (allDefinite st d ctx ((d.instrs.getD ref default).cands.map (·.m))) = .ok (o, s, r)) :
      Stepped st d ctx (.instr src (some ref)) k (o.elim d ((instrSlot ref).set d)) s r
  | dataSkip {sz es refs k} (hr : (d.datas.getD (refs.getD k 0) default).resolved = true) :
      Stepped st d ctx (.data sz es refs) k d true []
  | data {sz es refs k c o s r} (v : Value) (hr : (d.datas.getD (refs.getD k 0) default).resolved = false)
      (he : resolverEval st d ctx {} (es.getD k default) = .ok (v, c))
      (hs : dataStep (st.opts.optStatic && ctx.first) ctx.last sz (d.datas.getD (refs.getD k 0) default) v = .ok (o, s, r)) :
      Stepped st d ctx (.data sz es refs) k (o.elim d ((dataSlot (refs.getD k 0)).set d)) s r
  | res {e ref k c o s r} (v : Value) (he : resolverEval st d ctx {} e = .ok (v, c))
      (hs : resStep ctx.last (d.banks.getD ctx.bank defaultBank).addrUnit (d.res.getD ref 0) v = .ok (o, s, r)) :
      Stepped st d ctx (.res e (some ref)) k (o.elim d ((resSlot ref).set d)) s r
  | align {e ref k c o s r} (v : Value) (he : resolverEval st d ctx {} e = .ok (v, c))
      (hs : alignStep ctx.last (d.aligns.getD ref 0) v = .ok (o, s, r)) :
      Stepped st d ctx (.align e (some ref)) k (o.elim d ((alignSlot ref).set d)) s r
  | addr {e ref k c o s r} (v : Value) (he : resolverEval st d ctx {} e = .ok (v, c))
      (hs : addrStep ctx.last (d.banks.getD ctx.bank defaultBank) (d.addrs.getD ref 0) v = .ok (o, s, r)) :
      Stepped st d ctx (.addr e (some ref)) k (o.elim d ((addrSlot ref).set d)) s r
  | assertEarly {e k} (hl : ctx.last = false) : Stepped st d ctx (.assert e) k d false []
  | assert {e k c o s r} (v : Value) (hl : ctx.last = true) (he : resolverEval st d ctx {} e = .ok (v, c))
      (hs : assertStep v = .ok (o, s, r)) : Stepped st d ctx (.assert e) k d s r
  | other {n k} (hn : hasItem n = false) : Stepped st d ctx n k d true []

theorem dispatch_stepped {st : Static} {d d' : Defs} {ctx : RCtx} {n : AstNode} {k : Nat} {s : Bool} {r : List String}
    (h : dispatch st d ctx n k = .ok (d', s, r)) : Stepped st d ctx n k d' s r := by
  cases hn : hasItem n with
  | false => rw [dispatch_noItem hn] at h; cases h; exact .other hn
  | true =>
    unfold hasItem at hn
    split at hn
    · rename_i level name kind ne ref
      cases kind with
      | label =>
        replace h : resolveLabel st d ctx ref = _ := h
        rw [resolveLabel_eq] at h
        obtain ⟨a, o, he, hs, rfl⟩ := commit_bind_ok h
        exact .label a he hs
      | constant e =>
        replace h : resolveConstant st d ctx ref e = _ := h
        rw [resolveConstant_eq] at h
        split at h
        · rename_i hr; cases h; exact .constSkip hr
        · rename_i hr
          obtain ⟨⟨_, _⟩, o, he, hs, rfl⟩ := commit_bind_ok h
          exact .const _ (Bool.not_eq_true _ ▸ hr) he hs
    · rename_i src ref
      replace h : resolveInstruction st d ctx ref = _ := h
      rw [resolveInstruction_eq] at h
      split at h
      · rename_i hr; cases h; exact .instrSkip hr
      · rename_i hr
        obtain ⟨⟨_, _⟩, o, he, hs, rfl⟩ := commit_bind_ok h
        exact .instr _ _ (Bool.not_eq_true _ ▸ hr) he hs
    · rename_i sz es refs
      replace h : resolveData st d ctx (refs.getD k 0) sz (es.getD k default) = _ := h
      rw [resolveData_eq] at h
      split at h
      · rename_i hr; cases h; exact .dataSkip hr
      · rename_i hr
        obtain ⟨⟨_, _⟩, o, he, hs, rfl⟩ := commit_bind_ok h
        exact .data _ (Bool.not_eq_true _ ▸ hr) he hs
    · rename_i e ref
      replace h : resolveRes st d ctx ref e = _ := h
      rw [resolveRes_eq] at h
      obtain ⟨⟨_, _⟩, o, he, hs, rfl⟩ := commit_bind_ok h
      exact .res _ he hs
    · rename_i e ref
      replace h : resolveAlign st d ctx ref e = _ := h
      rw [resolveAlign_eq] at h
      obtain ⟨⟨_, _⟩, o, he, hs, rfl⟩ := commit_bind_ok h
      exact .align _ he hs
    · rename_i e ref
      replace h : resolveAddr st d ctx ref e = _ := h
      rw [resolveAddr_eq] at h
      obtain ⟨⟨_, _⟩, o, he, hs, rfl⟩ := commit_bind_ok h
      exact .addr _ he hs
    · rename_i e
      replace h : resolveAssert st d ctx e = _ := h
      rw [resolveAssert_eq] at h
      split at h
      · rename_i hl; cases h; exact .assertEarly (by simpa using hl)
      · rename_i hl
        obtain ⟨⟨_, _⟩, o, he, hs, rfl⟩ := commit_bind_ok h
        -- `noSlot` stores nothing, whatever the verdict's entry
        cases o <;> exact .assert _ (by simpa using hl) he hs
    · cases hn

end Casm
