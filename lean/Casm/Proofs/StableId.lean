import Casm.Proofs.PassFold
import Casm.Proofs.Wrote
/-!
# Casm.Proofs.StableId — a stable pass that is not the first one leaves the state untouched

Every item resolver compares the value it has just computed with the previous one and reports
`stable = false` when they differ; so when a whole non-first pass ends `stable`, nothing was
changed (`dispatch_id`, `resolveOnce_stable_id`), and every node, at its own position, recomputes the state
it was given (`fixed_point_at_every_node`, `fixed_point_dispatch`).  Two well-formedness facts about the
state are needed (`NodeOK`, `NodesOK`):

* `SymOK d r`  — the symbol slot `r` is not an in-range hole;
* `LabelOK d r` — additionally, if its value is an integer, that integer is unsized (labels are
  always written as unsized addresses, and `resolve_label` compares values only).

Every state that a pass has produced has them (`pass_establishes_ok`), provided no constant node shares its
symbol slot with a label node (`Clash`, `NoClash`; `refsWF_noClash`: the test `refsWF` is sound): the constant's step may store a sized
integer where the label node asks for an unsized one.  `Uniq`, the other hypothesis on the node list that
theorems about passes take (`Casm.Proofs.Corner`), says that a reference of an instruction or data element
occurs at one place only; both are proved of the front end's result.
-/
namespace Casm

def SymOK (d : Defs) (r : Nat) : Prop := d.symbols.length ≤ r ∨ ∃ s, d.symbols.getD r none = some s

def LabelOK (d : Defs) (r : Nat) : Prop := SymOK d r ∧ ∀ x, (d.sym r).value = .int x → x.size = none

theorem setSym_self (d : Defs) (r : Nat) (h : SymOK d r) : d.setSym r (d.sym r) = d := by
  unfold Defs.setSym Defs.sym
  rcases h with h | ⟨s, hs⟩
  · rw [List.set_eq_of_length_le h]
  · rw [hs, Option.getD_some, ← hs, set_getD_self]

theorem bi_eq_of_beq (a b : BI) (h : (a.v == b.v && a.size == b.size) = true) : a = b := by
  obtain ⟨av, as⟩ := a
  obtain ⟨bv, bs⟩ := b
  simp only [Bool.and_eq_true, beq_iff_eq] at h
  rw [h.1, h.2]

theorem valuesStable_eq (a b : Value) (h : valuesStable a b = true) : a = b := by
  unfold valuesStable at h
  split at h
  · rw [bi_eq_of_beq _ _ h]
  · simpa using h

theorem eq_of_not_bne {α} [BEq α] [LawfulBEq α] {a b : α} (h : true = !(a != b)) : a = b := by
  simpa using h.symm

theorem instrStep_id {last : Bool} {ins x : InstrDef} {encs : Option (List (Nat × BI))} {rep r : List String} {definite : Bool}
    (h : instrStep false last ins encs rep definite = .ok (some x, true, r)) : x = ins := by
  rcases instrStep_ok h with ⟨_, _, _, _, hm, _⟩ | ⟨_, e, _, _, _, ho, hs, _⟩ | ⟨ho, _⟩
  · cases hm
  · cases ho; rw [bi_eq_of_beq e.2 ins.encoding hs.symm]
  · cases ho

theorem storeStep_id {last : Bool} {x y : DataDef} {o : Option BI} {r : List String}
    (h : storeStep false last x o = .ok (some y, true, r)) : y = x := by
  rcases storeStep_ok h with ⟨_, _, hm, _⟩ | ⟨b, _, _, ho, hs, _⟩ | ⟨_, ho, _⟩
  · cases hm
  · cases ho; rw [bi_eq_of_beq b x.encoding hs.symm]
  · cases ho

def NodeOK (d : Defs) : AstNode → Prop
  | .symbol _ _ .label _ (some r) => LabelOK d r
  | .symbol _ _ (.constant _) _ (some r) => SymOK d r
  | _ => True

theorem dispatch_id (st : Static) (defs defs' : Defs) (ctx : RCtx) (n : AstNode) (k : Nat) (rep : List String)
    (hfirst : ctx.first = false) (hok : NodeOK defs n)
    (h : dispatch st defs ctx n k = .ok (defs', true, rep)) : defs' = defs := by
  cases dispatch_stepped h with
  | label a _ hs =>
    obtain ⟨rfl, hst, _⟩ := converge_ok hs
    refine elim_get (L := symSlot _) (setSym_self defs _ hok.1) fun s hs' => ?_
    cases hs'
    -- the stored value is the address just computed, and it is unsized
    show ({ defs.sym _ with value := .int ⟨a, none⟩ } : SymDef) = defs.sym _
    cases hv : (defs.sym _).value with
    | int x =>
      rw [hv] at hst
      have hxa : x.v = a := by simpa using hst.symm
      rw [← hxa, ← hok.2 x hv, ← hv]
    | _ => rw [hv] at hst; cases hst
  | const v hr _ hs =>
    obtain ⟨rfl, hst, _⟩ := converge_ok hs
    refine elim_get (L := symSlot _) (setSym_self defs _ hok) fun s hs' => ?_
    cases hs'
    have hv : v = (defs.sym _).value := valuesStable_eq _ _ (by simpa using hst.symm)
    show ({ defs.sym _ with value := v, resolved := st.opts.optStatic && ctx.first && (defs.sym _).known } : SymDef) = defs.sym _
    rw [hv, hfirst, Bool.and_false, Bool.false_and, ← hr]
  | instr _ _ _ _ hs =>
    rw [hfirst, Bool.and_false] at hs
    exact elim_get (L := instrSlot _) (by simp only [instrSlot, set_getD_self]) fun x hx => instrStep_id (hx ▸ hs)
  | data _ _ _ hs =>
    rw [hfirst, Bool.and_false] at hs
    obtain ⟨_, _, _, hs⟩ := dataStep_ok hs
    exact elim_get (L := dataSlot _) (by simp only [dataSlot, set_getD_self]) fun x hx => storeStep_id (hx ▸ hs)
  | res _ _ hs =>
    obtain ⟨_, _, _, rfl, hst, _⟩ := resStep_ok hs
    exact elim_get (L := resSlot _) (by simp only [resSlot, set_getD_self]) fun a ha => by cases ha; exact eq_of_not_bne hst
  | align _ _ hs =>
    obtain ⟨_, _, rfl, hst, _⟩ := alignStep_ok hs
    exact elim_get (L := alignSlot _) (by simp only [alignSlot, set_getD_self]) fun a ha => by cases ha; exact eq_of_not_bne hst
  | addr _ _ hs =>
    obtain ⟨_, _, rfl, hst, _⟩ := addrStep_ok hs
    exact elim_get (L := addrSlot _) (by simp only [addrSlot, set_getD_self]) fun a ha => by cases ha; exact eq_of_not_bne hst
  | _ => rfl

theorem passNode_id (st : Static) (last : Bool) (ps ps' : PassSt) (n : AstNode) (k : Nat)
    (h : passNode st false last ps n k = .ok ps') (hs : ps'.stable = true) (hok : NodeOK ps.defs n) :
    ps'.defs = ps.defs ∧ ps.stable = true := by
  obtain ⟨hs1, it, r, _, hd, _⟩ := passNode_inv_stable h hs
  exact ⟨dispatch_id st ps.defs _ _ n k r rfl hok hd, hs1⟩

def NodesOK (d : Defs) (nodes : List AstNode) : Prop := ∀ n ∈ nodes, NodeOK d n

theorem runVisits_id {st : Static} {last : Bool} {vs : List Visit} {a0 a1 : PassSt}
    (h : runVisits st false last vs a0 = .ok a1) (hs : a1.stable = true) (hok : ∀ v ∈ vs, NodeOK a0.defs v.1) :
    a1.defs = a0.defs :=
  runVisits_inv' (I := fun a => a.stable = true → a.defs = a0.defs) h (fun _ => rfl)
    (fun n k a a' hv ih hp hs' => by
      have hsa := passNode_stable_mono st false last a a' n k hp hs'
      exact (passNode_id st last a a' n k hp hs' (by rw [ih hsa]; exact hok _ hv)).1.trans (ih hsa)) hs

theorem resolveOnce_stable_id (st : Static) (nodes : List AstNode) (last : Bool) (d0 d : Defs) (rep : List String)
    (h : resolveOnce st nodes false last d0 = .ok (d, true, rep)) (hok : NodesOK d0 nodes) : d = d0 := by
  obtain ⟨ps, hp, rfl, hs, _⟩ := resolveOnce_ok.mp h
  exact runVisits_id hp hs fun v hv => hok _ (mem_visits.mp hv).1

theorem NodeOK_congr {d d' : Defs} (h : d'.symbols = d.symbols) (n : AstNode) : NodeOK d' n ↔ NodeOK d n := by
  unfold NodeOK LabelOK SymOK Defs.sym
  rw [h]

theorem SymOK_set {d d' : Defs} {r : Nat} {sd : SymDef} (h : d'.symbols = d.symbols.set r (some sd)) {x : Nat}
    (hx : x = r ∨ SymOK d x) : SymOK d' x := by
  unfold SymOK at *
  rw [h, List.length_set, getD_set]
  by_cases hw : r = x ∧ r < d.symbols.length
  · exact .inr ⟨sd, if_pos hw⟩
  · rw [if_neg hw]
    rcases hx with rfl | hx
    · exact .inl (Nat.not_lt.mp fun hl => hw ⟨rfl, hl⟩)
    · exact hx

theorem LabelOK_set {d d' : Defs} {r : Nat} {sd : SymDef} (h : d'.symbols = d.symbols.set r (some sd)) {x : Nat}
    (hv : x = r → ∀ b, sd.value = .int b → b.size = none) (hx : x = r ∨ LabelOK d x) : LabelOK d' x := by
  refine ⟨SymOK_set h (hx.imp_right And.left), fun b hb => ?_⟩
  unfold Defs.sym at hb
  rw [h, getD_set] at hb
  by_cases hw : r = x ∧ r < d.symbols.length
  · rw [if_pos hw] at hb
    exact hv hw.1.symm b hb
  · rw [if_neg hw] at hb
    rcases hx with rfl | hx
    · -- the slot written lies beyond the table: it reads as the default symbol, whose value is no integer
      rw [getD_ge' _ _ _ fun hl => hw ⟨rfl, hl⟩] at hb
      cases hb
    · exact hx.2 b hb

theorem NodeOK_set {d d' : Defs} {r : Nat} {sd : SymDef} (h : d'.symbols = d.symbols.set r (some sd)) {m : AstNode}
    (hv : ∀ l nm ne, m = .symbol l nm .label ne (some r) → ∀ b, sd.value = .int b → b.size = none)
    (hm : NodeOK d m) : NodeOK d' m := by
  unfold NodeOK at hm ⊢
  split
  · exact LabelOK_set h (fun hx => hv _ _ _ (by rw [hx])) (.inr hm)
  · exact SymOK_set h (.inr hm)
  · trivial

def Clash (n m : AstNode) : Prop :=
  match n, m with
  | .symbol _ _ (.constant _) _ (some r), .symbol _ _ .label _ (some r') => r = r'
  | _, _ => False

/-- a label is written unsized, so only a constant sharing the slot of a label node can spoil it -/
theorem Wrote.nodeOK {d d' : Defs} {n : AstNode} {k : Nat} (w : Wrote d n k d') {m : AstNode} (hc : ¬ Clash n m)
    (hm : NodeOK d m) : NodeOK d' m := by
  cases w with
  | nothing => exact hm
  | label a => exact NodeOK_set rfl (fun _ _ _ _ b hb => by cases hb; rfl) hm
  | const v b hr => exact NodeOK_set rfl (fun _ _ _ he => absurd (he ▸ rfl) hc) hm
  | _ => exact (NodeOK_congr rfl m).mpr hm

theorem SymOK_of_resolved (d : Defs) (r : Nat) (h : (d.sym r).resolved = true) : SymOK d r := by
  unfold SymOK
  unfold Defs.sym at h
  cases hg : d.symbols.getD r none with
  | none => rw [hg] at h; cases h
  | some s => exact Or.inr ⟨s, rfl⟩

theorem dispatch_ok_step (st : Static) (defs defs' : Defs) (ctx : RCtx) (n : AstNode) (k : Nat) (s : Bool) (rep : List String)
    (h : dispatch st defs ctx n k = .ok (defs', s, rep)) :
    (∀ m, ¬ Clash n m → NodeOK defs m → NodeOK defs' m) ∧ NodeOK defs' n := by
  refine ⟨fun m => (dispatch_wrote st defs defs' ctx n k s rep h).nodeOK, ?_⟩
  unfold NodeOK
  split
  · cases dispatch_stepped h with
    | label _ _ hs => cases (converge_ok hs).1; exact LabelOK_set rfl (fun _ b hb => by cases hb; rfl) (.inl rfl)
    | other hn => cases hn
  · cases dispatch_stepped h with
    | constSkip hr => exact SymOK_of_resolved _ _ hr
    | const _ _ _ hs => cases (converge_ok hs).1; exact SymOK_set rfl (.inl rfl)
    | other hn => cases hn
  · trivial

theorem passNode_ok_step (st : Static) (first last : Bool) (ps ps' : PassSt) (n : AstNode) (k : Nat)
    (h : passNode st first last ps n k = .ok ps') :
    (∀ m, ¬ Clash n m → NodeOK ps.defs m → NodeOK ps'.defs m) ∧ NodeOK ps'.defs n := by
  obtain ⟨it, s, r, _, hd, _⟩ := passNode_inv st first last ps ps' n k h
  exact dispatch_ok_step st ps.defs _ _ n k s r hd

def NoClash (l : List AstNode) : Prop := ∀ a ∈ l, ∀ b ∈ l, ¬ Clash a b

theorem nodesOK_step (st : Static) (first last : Bool) (nodes : List AstNode) (hwf : NoClash nodes) (a a' : PassSt) (n : AstNode) (k : Nat)
    (hn : n ∈ nodes) (h : passNode st first last a n k = .ok a') (hok : NodesOK a.defs nodes) : NodesOK a'.defs nodes := by
  obtain ⟨h1, _⟩ := passNode_ok_step st first last a a' n k h
  exact fun m hm => h1 m (hwf n hn m hm) (hok m hm)

structure Uniq (nodes : List AstNode) : Prop where
  instr : ∀ pre src ref post, nodes = pre ++ .instr src (some ref) :: post → ∀ src', AstNode.instr src' (some ref) ∉ post
  dataIn : ∀ sz es refs, AstNode.data sz es refs ∈ nodes → ∀ k1 k2, k1 < es.length → k2 < es.length →
    refs.getD k1 0 = refs.getD k2 0 → k1 = k2
  dataOut : ∀ pre sz es refs post, nodes = pre ++ .data sz es refs :: post → ∀ sz' es' refs', AstNode.data sz' es' refs' ∈ post →
    ∀ k k', k < es.length → k' < es'.length → refs.getD k 0 ≠ refs'.getD k' 0

theorem NodeOK_data (d : Defs) (sz : Option Nat) (es : List Expr) (refs : List Nat) : NodeOK d (.data sz es refs) := trivial

/-- whatever the flags and the input: each visit makes its own node well-formed and keeps the others so -/
theorem pass_establishes_ok (st : Static) (nodes : List AstNode) (first last : Bool) (d0 d : Defs) (s : Bool) (rep : List String)
    (h : resolveOnce st nodes first last d0 = .ok (d, s, rep)) (hwf : NoClash nodes) : NodesOK d nodes := by
  obtain ⟨ps, hp, rfl, _, _⟩ := resolveOnce_ok.mp h
  have hvis := runVisits_inv (I := fun done a => ∀ v ∈ done, NodeOK a.defs v.1) hp (fun _ hv => nomatch hv)
    (fun done n k rest a a' hs _ ih hq v hv => by
      have hmem : ∀ w ∈ done ++ (n, k) :: rest, w.1 ∈ nodes := fun w hw => (mem_visits.mp (hs ▸ hw)).1
      obtain ⟨h1, h2⟩ := passNode_ok_step st first last a a' n k hq
      rcases List.mem_append.mp hv with hv' | hv'
      · exact h1 _ (hwf n (hmem (n, k) (by simp)) _ (hmem v (List.mem_append_left _ hv'))) (ih v hv')
      · rw [List.mem_singleton.mp hv']; exact h2)
  intro m hm
  cases m with
  | symbol => exact hvis (_, 0) (mem_visits.mpr ⟨hm, Nat.one_pos⟩)
  | _ => trivial

theorem refsWF_noClash (nodes : List AstNode) (h : refsWF nodes = true) : NoClash nodes := by
  intro a ha b hb hc
  unfold Clash at hc
  split at hc
  · rename_i r _ _ _ r'
    subst hc
    have h1 : r ∈ constRefs nodes := List.mem_filterMap.mpr ⟨_, ha, rfl⟩
    have h2 : r ∈ labelRefs nodes := List.mem_filterMap.mpr ⟨_, hb, rfl⟩
    have := List.all_eq_true.mp h r h1
    rw [Bool.not_eq_true', List.contains_eq_mem, decide_eq_false_iff_not] at this
    exact this h2
  · exact hc

theorem fixed_point_at_every_node (st : Static) (nodes : List AstNode) (last : Bool) (d : Defs) (rep : List String)
    (h : resolveOnce st nodes false last d = .ok (d, true, rep)) (hok : NodesOK d nodes)
    (pre post : List AstNode) (n : AstNode) (hsplit : nodes = pre ++ n :: post) :
    ∃ ps ps1, passNodes st false last pre ⟨d, initIter d.banks, [], true, []⟩ = .ok ps ∧ ps.defs = d ∧
      passNodes.go st false last n 0 (nodeElems n) ps = .ok ps1 ∧ ps1.defs = d ∧ ps1.stable = true := by
  obtain ⟨psf, hp, _, hsf, _⟩ := resolveOnce_ok.mp h
  rw [hsplit, visits_append, visits_cons] at hp
  obtain ⟨ps, hpre, hp⟩ := runVisits_split hp
  obtain ⟨ps1, hg, hpost⟩ := runVisits_split hp
  have hs1 := runVisits_stable_mono hpost hsf
  have hs0 := runVisits_stable_mono hg hs1
  have hmem : ∀ m, m ∈ pre ∨ m = n → NodeOK d m := fun m hm => hok m (by
    rw [hsplit]; rcases hm with hm | hm <;> simp [hm])
  have hd0 : ps.defs = d := runVisits_id hpre hs0 fun v hv => hmem _ (Or.inl (mem_visits.mp hv).1)
  have hd1 : ps1.defs = ps.defs := runVisits_id hg hs1 fun v hv => by
    rw [hd0]; exact hmem _ (Or.inr (mem_elemVisits.mp hv).1)
  exact ⟨ps, ps1, by rw [passNodes_eq]; exact hpre, hd0, by rw [go_eq]; exact hg, hd1.trans hd0, hs1⟩

theorem fixed_point_dispatch (st : Static) (nodes : List AstNode) (last : Bool) (d : Defs) (rep : List String)
    (h : resolveOnce st nodes false last d = .ok (d, true, rep)) (hok : NodesOK d nodes)
    (pre post : List AstNode) (n : AstNode) (hsplit : nodes = pre ++ n :: post) (hn : 0 < nodeElems n) :
    ∃ ps it r, passNodes st false last pre ⟨d, initIter d.banks, [], true, []⟩ = .ok ps ∧
      visit d.banks ps.it (nodeItem st d n 0) = .ok it ∧
      dispatch st d ⟨false, last, stepCtx st ps.symCtx n, it.bank, it.pos⟩ n 0 = .ok (d, true, r) := by
  obtain ⟨ps, ps1, hpre, hd0, hg, _, hs1⟩ := fixed_point_at_every_node st nodes last d rep h hok pre post n hsplit
  obtain ⟨e, he⟩ : ∃ e, nodeElems n = e + 1 := ⟨nodeElems n - 1, by omega⟩
  rw [go_eq, he, elemVisits_succ] at hg
  obtain ⟨a, hp, hrest⟩ := runVisits_cons_ok hg
  have hsa := runVisits_stable_mono hrest hs1
  obtain ⟨hda, _⟩ := passNode_id st last ps a n 0 hp hsa (by rw [hd0]; exact hok n (by rw [hsplit]; simp))
  obtain ⟨_, it, r, hv, hd, _⟩ := passNode_inv_stable hp hsa
  rw [hda, hd0] at hd
  rw [hd0] at hv
  exact ⟨ps, it, r, hpre, hv, hd⟩

end Casm
