import Casm.Model.ExprEval
import Casm.Proofs.ExceptLemmas
/-!
# Casm.Proofs.EvalEqns — `eval` is compositional

Every constructor of `Expr` is evaluated the same way: evaluate a sub-expression; stop at an error or at a
propagating value (`propagate!`); otherwise go on with the value.  `thenV` is that one step, and the equations
below write `eval` with it: one for each constructor, except that `.lit` needs none (`rw [eval]`) and `.bin` has
three (`eval_assign`, `eval_assign_bad`, `eval_bin`).  What remains between the steps is a function of
the values alone (`unOp`, `binOp`, ...), put back into the context by `retV`.  A proof about `eval` is then
a structural induction on the expression with one transfer lemma about `thenV` — see `Casm.Proofs.EvalMono`
and `Casm.Proofs.StaticEval`.

At the head of the file, what `Locals.set` does to `Locals.get`.
-/
namespace Casm

/-- "drop the key, put it in front" is `Locals.set` and `SKProvider.setLocal` -/
theorem find?_set {β} (l : List (String × β)) (n m : String) (v : β) :
    (((n, v) :: l.filter (·.1 != n)).find? (·.1 == m)).map (·.2) = if n = m then some v else (l.find? (·.1 == m)).map (·.2) := by
  by_cases h : n = m
  · simp [h]
  · have h1 : (n == m) = false := by simpa using h
    simp only [List.find?, h1, List.find?_filter, h, if_false]
    -- the filter drops entries of key `n` only, and `m` is another key
    congr 2; funext a
    by_cases hm : a.1 = m
    · simp [hm, Ne.symm h]
    · simp [hm]

theorem Locals.get_set_self (l : Locals) (n : String) (v : Value) : (l.set n v).get n = some v :=
  (find?_set l n n v).trans (if_pos rfl)

theorem Locals.get_set_ne (l : Locals) (n m : String) (v : Value) (h : n ≠ m) : (l.set n v).get m = l.get m :=
  (find?_set l n m v).trans (if_neg h)

/-- `stop` is how a propagating value is returned: `id` in `eval` and `evalBlock`, `Sum.inl` in `evalArgs` -/
def thenV {α} (stop : Value → α) (r : Except String (Value × ECtx)) (k : Value → ECtx → Except String (α × ECtx)) :
    Except String (α × ECtx) :=
  r.bind fun x => if x.1.shouldPropagate then .ok (stop x.1, x.2) else k x.1 x.2

/-- `β`: of a call, the values of its arguments; of an instruction match, the production's context
    (`Casm.resolveMatch_succ`) -/
def thenArgs {β} (r : Except String (Sum Value β × ECtx)) (k : β → ECtx → Except String (Value × ECtx)) :
    Except String (Value × ECtx) :=
  r.bind fun x =>
    match x.1 with
    | .inl v => .ok (v, x.2)
    | .inr vs => k vs x.2

theorem thenV_ok {α} (stop : Value → α) (v : Value) (c : ECtx) (k : Value → ECtx → Except String (α × ECtx)) :
    thenV stop (.ok (v, c)) k = if v.shouldPropagate then .ok (stop v, c) else k v c := rfl

theorem ExLe.thenV {α} {stop : Value → α} {r1 r2 : Except String (Value × ECtx)} {k1 k2 : Value → ECtx → Except String (α × ECtx)}
    (hr : ExLe r1 r2) (hk : ∀ v c, ExLe (k1 v c) (k2 v c)) : ExLe (thenV stop r1 k1) (thenV stop r2 k2) :=
  hr.bind fun x => .ite (.refl _) (hk x.1 x.2)

theorem ExLe.thenArgs {β} {r1 r2 : Except String (Sum Value β × ECtx)} {k1 k2 : β → ECtx → Except String (Value × ECtx)}
    (hr : ExLe r1 r2) (hk : ∀ b c, ExLe (k1 b c) (k2 b c)) : ExLe (thenArgs r1 k1) (thenArgs r2 k2) :=
  hr.bind fun x => by
    obtain ⟨s, c⟩ := x
    cases s with
    | inl u => exact .refl _
    | inr b => exact hk b c

def retV (c : ECtx) (r : Except String Value) : Except String (Value × ECtx) := r.map (·, c)

theorem retV_ok {c c' : ECtx} {r : Except String Value} {v : Value} (h : retV c r = .ok (v, c')) : r = .ok v ∧ c' = c := by
  obtain ⟨a, rfl, e⟩ := map_ok _ _ _ h
  injection e with h1 h2
  exact ⟨congrArg _ h1, h2.symm⟩

def ECtx.lookup (c : ECtx) : Nat → List String → Option Value
  | 0, [name] => if isBuiltinName name then some (.builtin name) else c.locals.get name
  | _, _ => none

def unOp (op : UnOp) (v : Value) : Except String Value :=
  match v, op with
  | .int x, .Neg => .ok (unsized (-x.v))
  | .int x, .Not => .ok (unsized (intNot x.v))
  | .bool b, .Not => .ok (.bool (!b))
  | _, _ => .error "invalid argument type to operator"

def shortCircuit (op : BinOp) (lv : Value) : Option (Except String Value) :=
  if op = .LazyOr ∨ op = .LazyAnd then
    match lv with
    | .bool b => if b = (op = .LazyOr) then some (.ok lv) else none
    | _ => some (.error "invalid argument type to operator")
  else none

def binOp (op : BinOp) (lv rv : Value) : Except String Value :=
  if op = .LazyOr ∨ op = .LazyAnd then
    match rv with
    | .bool _ => .ok rv
    | _ => .error "invalid argument type to operator"
  else
    match lv, rv with
    | .bool a, .bool b => evalBinBool op a b
    | _, _ =>
      match lv.getBigint, rv.getBigint with
      | some a, some b => evalBinInt op a b
      | _, _ => .error "invalid argument types to operator"

def sliceOp (x : BI) (hv lv : Value) : Except String Value :=
  match expectUsize hv with
  | .error m => .error m
  | .ok h =>
    match expectUsize lv with
    | .error m => .error m
    | .ok l =>
      if h < l then .error "invalid slice range"
      else if h + 1 ≥ USIZE_MAX1 then .error outOfRange
      else (checkedSlice x (h + 1) l).map .int

def sliceShortOp (x : BI) (sv : Value) : Except String Value :=
  match expectUsize sv with
  | .error m => .error m
  | .ok s => (checkedSlice x s 0).map .int

def applyFn (env : EvalEnv) (fv : Value) (vs : List Value) (c : ECtx) : Except String Value :=
  match fv with
  | .builtin name => evalBuiltin name vs
  | .asmBuiltin _ => env.fn fv vs c
  | .fn _ => env.fn fv vs c
  | .unknown => .error "unknown function"
  | _ => .error "expression is not callable"

variable {env : EvalEnv} {c : ECtx}

theorem thenV_intro {α} {stop : Value → α} {r : Except String (Value × ECtx)} {k k' : Value → ECtx → Except String (α × ECtx)}
    (h : ∀ v c, k' v c = k v c) :
    (match r with
      | .error m => .error m
      | .ok (v, c) => if v.shouldPropagate then .ok (stop v, c) else k' v c) = thenV stop r k := by
  unfold thenV
  cases r with
  | error m => rfl
  | ok x => exact ite_congr rfl (fun _ => rfl) fun _ => h x.1 x.2

theorem eval_var {l : Nat} {path : List String} :
    eval env c (.var l path) = match c.lookup l path with
      | some v => .ok (v, c)
      | none => retV c (env.var l path) := by
  by_cases h : ∃ name, l = 0 ∧ path = [name]
  · obtain ⟨name, rfl, rfl⟩ := h
    rw [eval]
    unfold ECtx.lookup
    by_cases hb : isBuiltinName name = true
    · simp only [hb, if_true]
    · simp only [hb, Bool.false_eq_true, if_false]; cases c.locals.get name <;> rfl
  · have h' : ∀ name, l = 0 → path = [name] → False := fun name h1 h2 => h ⟨name, h1, h2⟩
    -- Lean numbers the clauses of `eval` as written, a `match` within a clause splitting it.  Those that overlap an earlier
    -- one take a side condition and are used by number: 3 is `.var` other than `0, [name]`; 6 `.bin .Assign (.var ..) _`,
    -- likewise; 7 `.bin .Assign l _`, `l` no variable; 10 `.bin op`, `op` none of `Assign`, `LazyOr`, `LazyAnd`.
    rw [eval.eq_3 env c l path h', ECtx.lookup.eq_2 c l path h']; rfl

theorem eval_un {op : UnOp} {e : Expr} :
    eval env c (.un op e) = thenV id (eval env c e) fun v c => retV c (unOp op v) := by
  rw [eval]
  refine thenV_intro fun v c => ?_
  cases v <;> cases op <;> rfl

theorem eval_assign {name : String} {r : Expr} :
    eval env c (.bin .Assign (.var 0 [name]) r) = thenV id (eval env c r) fun v c => .ok (.void, c.setLocal name v) := by
  rw [eval]
  exact thenV_intro fun _ _ => rfl

theorem eval_assign_bad (l r : Expr) (h : ∀ name, l ≠ .var 0 [name]) : ∃ m, ∀ env c, eval env c (.bin .Assign l r) = .error m := by
  cases l with
  | var level path => exact ⟨_, fun env c => eval.eq_6 env c r level path fun name h1 h2 => h name (by rw [h1, h2])⟩
  | _ => exact ⟨_, fun env c => eval.eq_7 env c _ r fun _ _ h => by cases h⟩

theorem eval_bin {op : BinOp} {l r : Expr} (h : op ≠ .Assign) :
    eval env c (.bin op l r) = thenV id (eval env c l) fun lv c =>
      match shortCircuit op lv with
      | some res => retV c res
      | none => thenV id (eval env c r) fun rv c => retV c (binOp op lv rv) := by
  by_cases hl : op = .LazyOr ∨ op = .LazyAnd
  · have hb : ∀ lv rv c, (match rv with
          | .bool _ => .ok (rv, c)
          | _ => .error "invalid argument type to operator") = retV c (binOp op lv rv) := by
      intro lv rv c; unfold binOp; rw [if_pos hl]; cases rv <;> rfl
    rcases hl with rfl | rfl
    · rw [eval]
      refine thenV_intro fun lv c => ?_
      cases lv with
      | bool b =>
        cases b with
        | true => rfl
        | false => exact thenV_intro fun rv c => hb _ rv c
      | _ => rfl
    · rw [eval]
      refine thenV_intro fun lv c => ?_
      cases lv with
      | bool b =>
        cases b with
        | false => rfl
        | true => exact thenV_intro fun rv c => hb _ rv c
      | _ => rfl
  · rw [eval.eq_10 env c op l r h (fun e => hl (.inl e)) (fun e => hl (.inr e))]
    refine thenV_intro fun lv c => ?_
    unfold shortCircuit; rw [if_neg hl]
    refine thenV_intro fun rv c => ?_
    unfold binOp; rw [if_neg hl]
    -- the right operand is looked at only if the left one is a boolean or has a `getBigint`
    cases lv with
    | bool a => cases rv <;> rfl
    | int x => cases rv <;> rfl
    | str s enc => cases rv <;> rfl
    | _ => rfl

theorem eval_tern {a t f : Expr} :
    eval env c (.tern a t f) = thenV id (eval env c a) fun v c =>
      match v with
      | .bool true => eval env c t
      | .bool false => eval env c f
      | _ => .error "invalid condition type" := by
  rw [eval]
  exact thenV_intro fun _ _ => rfl

theorem eval_slice {hi lo inner : Expr} :
    eval env c (.slice hi lo inner) = thenV id (eval env c inner) fun iv c =>
      match iv.getBigint with
      | none => .error "invalid argument type to slice"
      | some x => thenV id (eval env c hi) fun hv c => thenV id (eval env c lo) fun lv c => retV c (sliceOp x hv lv) := by
  rw [eval]
  refine thenV_intro fun iv c => ?_
  cases iv.getBigint with
  | none => rfl
  | some x =>
    refine thenV_intro fun hv c => thenV_intro fun lv c => ?_
    unfold sliceOp
    cases expectUsize hv with
    | error m => rfl
    | ok h =>
      cases expectUsize lv with
      | error m => rfl
      | ok l =>
        simp only
        split
        · rfl
        · split
          · rfl
          · cases checkedSlice x (h + 1) l <;> rfl

theorem eval_sliceShort {size inner : Expr} :
    eval env c (.sliceShort size inner) = thenV id (eval env c inner) fun iv c =>
      match iv.getBigint with
      | none => .error "invalid argument type to slice"
      | some x => thenV id (eval env c size) fun sv c => retV c (sliceShortOp x sv) := by
  rw [eval]
  refine thenV_intro fun iv c => ?_
  cases iv.getBigint with
  | none => rfl
  | some x =>
    refine thenV_intro fun sv c => ?_
    unfold sliceShortOp
    cases expectUsize sv with
    | error m => rfl
    | ok s => cases checkedSlice x s 0 <;> rfl

theorem eval_block {es : List Expr} : eval env c (.block es) = evalBlock env c .void es := by rw [eval]

theorem evalBlock_cons {last : Value} {e : Expr} {es : List Expr} :
    evalBlock env c last (e :: es) = thenV id (eval env c e) fun v c => evalBlock env c v es := by
  rw [evalBlock]
  exact thenV_intro fun _ _ => rfl

theorem evalArgs_cons {acc : List Value} {e : Expr} {es : List Expr} :
    evalArgs env c acc (e :: es) = thenV Sum.inl (eval env c e) fun v c => evalArgs env c (v :: acc) es := by
  rw [evalArgs]
  exact thenV_intro fun _ _ => rfl

theorem eval_call {f : Expr} {args : List Expr} :
    eval env c (.call f args) = thenV id (eval env c f) fun fv c =>
      thenArgs (evalArgs env c [] args) fun vs c => retV c (applyFn env fv vs c) := by
  rw [eval]
  refine thenV_intro fun fv c => ?_
  unfold thenArgs
  cases evalArgs env c [] args with
  | error m => rfl
  | ok x =>
    obtain ⟨r, c1⟩ := x
    cases r with
    | inl v => rfl
    | inr vs => cases fv <;> rfl

theorem eval_asm {text : List Char} : eval env c (.asm text) = retV c (env.asm text c) := by rw [eval]; rfl

end Casm
