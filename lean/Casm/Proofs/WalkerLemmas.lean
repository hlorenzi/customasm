import Casm.Model.Walker
/-! `tokenAt` on a run of blanks and on a line comment; `skipIgnorable` steps over one ignorable token at a time, whatever
    fuel is left. -/
namespace Casm

theorem tokenAt_of_decide {c : Char} {cs : List Char} {k : TokKind} {n : Nat}
    (h : decideNextToken (c :: cs) = (k, n + 1)) : tokenAt (c :: cs) = ⟨k, (c :: cs).take (n + 1)⟩ := by
  simp [tokenAt, h]

theorem tokenAt_text_pos (c : Char) (cs : List Char) : 1 ≤ (tokenAt (c :: cs)).text.length := by
  simp only [tokenAt, List.length_take, List.length_cons]
  cases (decideNextToken (c :: cs)).2 with
  | zero => exact Nat.le_min.2 ⟨Nat.le_refl 1, Nat.le_add_left 1 _⟩
  | succ n => exact Nat.le_min.2 ⟨Nat.le_add_left 1 n, Nat.le_add_left 1 _⟩

/-- why the fuel of the skipping loops suffices -/
theorem length_drop_tokenAt (c : Char) (cs : List Char) :
    ((c :: cs).drop (tokenAt (c :: cs)).text.length).length ≤ cs.length := by
  have := tokenAt_text_pos c cs
  simp only [List.length_drop, List.length_cons]
  omega

theorem spanLen_run (p : Char → Bool) (ws s : List Char) (hws : ∀ c ∈ ws, p c = true)
    (hs : ∀ c, s.head? = some c → p c = false) : spanLen p (ws ++ s) = ws.length := by
  induction ws with
  | nil =>
    cases s with
    | nil => rfl
    | cons c cs => simp [spanLen, hs c rfl]
  | cons w ws ih =>
    simp only [List.cons_append, spanLen, hws w (List.mem_cons_self), if_true, List.length_cons]
    rw [ih (fun c hc => hws c (List.mem_cons_of_mem _ hc))]

theorem tokenAt_blank_run (w : Char) (ws s : List Char) (hw : isWhitespace w = true) (hws : ∀ c ∈ ws, isWhitespace c = true)
    (hs : ∀ c, s.head? = some c → isWhitespace c = false) :
    tokenAt (w :: ws ++ s) = ⟨.Whitespace, w :: ws⟩ := by
  have hd : decideNextToken (w :: (ws ++ s)) = (.Whitespace, ws.length + 1) := by
    simp only [decideNextToken, checkWhitespace, consumeWhile, hw, if_true, Option.map_some]
    rw [spanLen_run isWhitespace ws s hws hs]
  rw [List.cons_append, tokenAt_of_decide hd, List.take_succ_cons, List.take_left]

theorem tokenAt_line_comment (rest : List Char) (h : ∀ c, rest.head? = some c → c ≠ '*') :
    tokenAt (';' :: rest) = ⟨.Comment, ';' :: rest.take (spanLen (fun c => c != '\n') rest)⟩ := by
  have hc : checkComment (';' :: rest) = some (.Comment, spanLen (fun c => c != '\n') rest + 1) := by
    rw [checkComment]
    -- the equation of the `;` arm asks that the `;*` arm before it does not apply
    rintro rest' rfl
    exact h _ rfl rfl
  have hw : checkWhitespace (';' :: rest) = none := rfl
  exact tokenAt_of_decide (by simp only [decideNextToken, hw, hc])

theorem whitespace_ignorable : TokKind.isIgnorable .Whitespace = true := by decide
theorem comment_ignorable : TokKind.isIgnorable .Comment = true := by decide
theorem linebreak_ignorable : TokKind.isIgnorable .LineBreak = true := by decide

theorem skipIgnorableAux_fuel : ∀ (n m : Nat) (s : Src), s.length ≤ n → s.length ≤ m →
    skipIgnorableAux n s = skipIgnorableAux m s := by
  intro n
  induction n with
  | zero =>
    intro m s hn _
    obtain rfl := List.eq_nil_of_length_eq_zero (Nat.le_zero.1 hn)
    cases m <;> rfl
  | succ n ih =>
    intro m s hn hm
    cases s with
    | nil => cases m <;> rfl
    | cons c cs =>
      cases m with
      | zero => exact absurd hm (Nat.not_succ_le_zero _)
      | succ m =>
        have hd := length_drop_tokenAt c cs
        simp only [skipIgnorableAux]
        split
        · exact ih m _ (Nat.le_trans hd (Nat.le_of_succ_le_succ hn)) (Nat.le_trans hd (Nat.le_of_succ_le_succ hm))
        · rfl

theorem skipIgnorable_step (c : Char) (cs : List Char) (h : (tokenAt (c :: cs)).kind.isIgnorable = true) :
    skipIgnorable (c :: cs) = skipIgnorable ((c :: cs).drop (tokenAt (c :: cs)).text.length) := by
  simp only [skipIgnorable, List.length_cons, skipIgnorableAux, h, if_true]
  exact skipIgnorableAux_fuel _ _ _ (length_drop_tokenAt c cs) (Nat.le_refl _)

theorem skipIgnorableAux_length : ∀ (n : Nat) (s : Src), (skipIgnorableAux n s).length ≤ s.length
  | 0, _ => Nat.le_refl _
  | _ + 1, [] => Nat.le_refl _
  | n + 1, c :: cs => by
    simp only [skipIgnorableAux]
    split
    · exact Nat.le_trans (skipIgnorableAux_length n _) (Nat.le_succ_of_le (length_drop_tokenAt c cs))
    · exact Nat.le_refl _

theorem skipIgnorable_length (s : Src) : (skipIgnorable s).length ≤ s.length := skipIgnorableAux_length _ s

theorem skipIgnorable_blank_run (ws s : List Char) (hws : ∀ c ∈ ws, isWhitespace c = true)
    (hs : ∀ c, s.head? = some c → isWhitespace c = false) :
    skipIgnorable (ws ++ s) = skipIgnorable s := by
  cases ws with
  | nil => rfl
  | cons w ws =>
    have ht := tokenAt_blank_run w ws s (hws w List.mem_cons_self) (fun c hc => hws c (List.mem_cons_of_mem _ hc)) hs
    rw [List.cons_append] at ht ⊢
    rw [skipIgnorable_step w (ws ++ s) (ht ▸ whitespace_ignorable), ht, ← List.cons_append, List.drop_left]

end Casm
