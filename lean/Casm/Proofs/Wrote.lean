import Casm.Proofs.ItemStep
import Casm.Proofs.DefsLemmas
/-!
# Casm.Proofs.Wrote — what one resolver step wrote

`Stepped` says why a step returns what it returns; `Wrote` keeps only the state it returns: the one
it was given, or that state with the own entry of the step's item replaced.  Read entry by entry
(`Wrote.at_sym`, `at_instr`, `at_data`): an entry is left as it was, or it is the entry of the step's
own node, it carried no mark (a label's symbol apart), and it is re-valued.  `ItemFrame` (`dispatch_frame`) is the
part of this that speaks of instructions and data elements: a step keeps the rule definitions, the candidates and
flags of every entry, and every marked entry as a whole; the invariant `Good` of `Casm.Proofs.Frozen` is kept through it.
-/
namespace Casm

inductive Wrote (d : Defs) : AstNode → Nat → Defs → Prop
  | nothing {n k} : Wrote d n k d
  | label {l nm ne ref k} (a : Int) :
      Wrote d (.symbol l nm .label ne (some ref)) k (d.setSym ref { d.sym ref with value := .int ⟨a, none⟩ })
  | const {l nm e ne ref k} (v : Value) (b : Bool) (hr : (d.sym ref).resolved = false) :
      Wrote d (.symbol l nm (.constant e) ne (some ref)) k (d.setSym ref { d.sym ref with value := v, resolved := b })
  | instr {src ref k} (e : BI) (b : Bool) (hr : (d.instrs.getD ref default).resolved = false) :
      Wrote d (.instr src (some ref)) k
        { d with instrs := d.instrs.set ref { d.instrs.getD ref default with encoding := e, resolved := b } }
  | data {sz es refs k} (e : BI) (b : Bool) (hr : (d.datas.getD (refs.getD k 0) default).resolved = false) :
      Wrote d (.data sz es refs) k
        { d with datas := d.datas.set (refs.getD k 0) { d.datas.getD (refs.getD k 0) default with encoding := e, resolved := b } }
  | res {e ref k} (x : Nat) : Wrote d (.res e (some ref)) k { d with res := d.res.set ref x }
  | align {e ref k} (x : Nat) : Wrote d (.align e (some ref)) k { d with aligns := d.aligns.set ref x }
  | addr {e ref k} (x : Int) : Wrote d (.addr e (some ref)) k { d with addrs := d.addrs.set ref x }

theorem dispatch_wrote (st : Static) (d d' : Defs) (ctx : RCtx) (n : AstNode) (k : Nat) (s : Bool) (rep : List String)
    (h : dispatch st d ctx n k = .ok (d', s, rep)) : Wrote d n k d' := by
  cases dispatch_stepped h with
  | label _ _ hs => cases (converge_ok hs).1; exact .label _
  | const _ hr _ hs => cases (converge_ok hs).1; exact .const _ _ hr
  | instr _ _ hr _ hs =>
    rcases instrStep_ok hs with ⟨_, _, _, _, _, rfl, _⟩ | ⟨_, _, _, _, _, rfl, _⟩ | ⟨rfl, _⟩
    · exact .instr _ true hr
    · exact .instr _ _ hr
    · exact .nothing
  | data _ hr _ hs =>
    obtain ⟨_, _, _, hs⟩ := dataStep_ok hs
    rcases storeStep_ok hs with ⟨_, _, _, rfl, _⟩ | ⟨_, _, _, rfl, _⟩ | ⟨_, rfl, _⟩
    · exact .data _ true hr
    · exact .data _ _ hr
    · exact .nothing
  | res _ _ hs => obtain ⟨_, _, _, rfl, _⟩ := resStep_ok hs; exact .res _
  | align _ _ hs => obtain ⟨_, _, rfl, _⟩ := alignStep_ok hs; exact .align _
  | addr _ _ hs => obtain ⟨_, _, rfl, _⟩ := addrStep_ok hs; exact .addr _
  | _ => exact .nothing

theorem Wrote.at_sym {d d' : Defs} {n : AstNode} {k : Nat} (w : Wrote d n k d') (r : Nat) :
    d'.sym r = d.sym r ∨ ∃ v b, d'.sym r = { d.sym r with value := v, resolved := b } ∧
      ((∃ l nm ne, n = .symbol l nm .label ne (some r)) ∧ b = (d.sym r).resolved ∨
       (∃ l nm e ne, n = .symbol l nm (.constant e) ne (some r)) ∧ (d.sym r).resolved = false) := by
  cases w with
  | @label _ _ _ ref _ a =>
    rcases sym_setSym d ref r { d.sym ref with value := .int ⟨a, none⟩ } with h | ⟨rfl, h⟩
    · exact Or.inl h
    · exact Or.inr ⟨_, _, h, Or.inl ⟨⟨_, _, _, rfl⟩, rfl⟩⟩
  | @const _ _ _ _ ref _ v b hr =>
    rcases sym_setSym d ref r { d.sym ref with value := v, resolved := b } with h | ⟨rfl, h⟩
    · exact Or.inl h
    · exact Or.inr ⟨v, b, h, Or.inr ⟨⟨_, _, _, _, rfl⟩, hr⟩⟩
  | _ => exact Or.inl rfl

theorem Wrote.sym_known {d d' : Defs} {n : AstNode} {k : Nat} (w : Wrote d n k d') (r : Nat) :
    (d'.sym r).known = (d.sym r).known := by
  rcases w.at_sym r with h | ⟨_, _, h, _⟩ <;> rw [h]

theorem Wrote.sym_resolved {d d' : Defs} {n : AstNode} {k : Nat} (w : Wrote d n k d') (r : Nat)
    (hr : (d.sym r).resolved = true) : (d'.sym r).resolved = true := by
  rcases w.at_sym r with h | ⟨_, _, h, ⟨_, rfl⟩ | ⟨_, h0⟩⟩
  · rw [h]; exact hr
  · rw [h]; exact hr
  · rw [h0] at hr; cases hr

theorem Wrote.sym_kept {d d' : Defs} {n : AstNode} {k : Nat} (w : Wrote d n k d') {r : Nat}
    (hr : (d.sym r).resolved = true) (hl : ∀ l nm ne, n ≠ .symbol l nm .label ne (some r)) : d'.sym r = d.sym r := by
  rcases w.at_sym r with h | ⟨_, _, _, ⟨⟨l, nm, ne, hn⟩, _⟩ | ⟨_, h0⟩⟩
  · exact h
  · exact absurd hn (hl l nm ne)
  · rw [h0] at hr; cases hr

theorem Wrote.at_instr {d d' : Defs} {n : AstNode} {k : Nat} (w : Wrote d n k d') (ref : Nat) :
    d'.instrs.getD ref default = d.instrs.getD ref default ∨
      ((∃ src, n = .instr src (some ref)) ∧ (d.instrs.getD ref default).resolved = false ∧
        ∃ e b, d'.instrs.getD ref default = { d.instrs.getD ref default with encoding := e, resolved := b }) := by
  cases w with
  | @instr _ r _ e b hr =>
    rcases getD_set_eq_or d.instrs r ref { d.instrs.getD r default with encoding := e, resolved := b } default with h | ⟨rfl, h⟩
    · exact Or.inl h
    · exact Or.inr ⟨⟨_, rfl⟩, hr, e, b, h⟩
  | _ => exact Or.inl rfl

theorem Wrote.at_data {d d' : Defs} {n : AstNode} {k : Nat} (w : Wrote d n k d') (ref : Nat) :
    d'.datas.getD ref default = d.datas.getD ref default ∨
      ((∃ sz es refs, n = .data sz es refs ∧ refs.getD k 0 = ref) ∧ (d.datas.getD ref default).resolved = false ∧
        ∃ e b, d'.datas.getD ref default = { d.datas.getD ref default with encoding := e, resolved := b }) := by
  cases w with
  | @data _ _ refs _ e b hr =>
    rcases getD_set_eq_or d.datas (refs.getD k 0) ref { d.datas.getD (refs.getD k 0) default with encoding := e, resolved := b } default
      with h | ⟨rfl, h⟩
    · exact Or.inl h
    · exact Or.inr ⟨⟨_, _, _, rfl, rfl⟩, hr, e, b, h⟩
  | _ => exact Or.inl rfl

structure ItemFrame (a b : Defs) : Prop where
  rd : b.ruledefs = a.ruledefs
  ic : ∀ ref, (b.instrs.getD ref default).cands = (a.instrs.getD ref default).cands ∧
    (b.instrs.getD ref default).known = (a.instrs.getD ref default).known
  dk : ∀ ref, (b.datas.getD ref default).known = (a.datas.getD ref default).known
  ifz : ∀ ref, (a.instrs.getD ref default).resolved = true → b.instrs.getD ref default = a.instrs.getD ref default
  dfz : ∀ ref, (a.datas.getD ref default).resolved = true → b.datas.getD ref default = a.datas.getD ref default

theorem frame_of_items {d d' : Defs} (h1 : d'.ruledefs = d.ruledefs) (h2 : d'.instrs = d.instrs) (h3 : d'.datas = d.datas) :
    ItemFrame d d' :=
  ⟨h1, fun _ => by rw [h2]; exact ⟨rfl, rfl⟩, fun _ => by rw [h3], fun _ _ => by rw [h2], fun _ _ => by rw [h3]⟩

theorem Wrote.itemFrame {d d' : Defs} {n : AstNode} {k : Nat} (w : Wrote d n k d') : ItemFrame d d' := by
  refine ⟨by cases w <;> rfl, fun r => ?_, fun r => ?_, fun r hr => ?_, fun r hr => ?_⟩
  · rcases w.at_instr r with h | ⟨_, _, _, _, h⟩ <;> rw [h] <;> exact ⟨rfl, rfl⟩
  · rcases w.at_data r with h | ⟨_, _, _, _, h⟩ <;> rw [h]
  · exact (w.at_instr r).resolve_right fun h => by rw [h.2.1] at hr; cases hr
  · exact (w.at_data r).resolve_right fun h => by rw [h.2.1] at hr; cases hr

theorem dispatch_frame (st : Static) (d d' : Defs) (ctx : RCtx) (n : AstNode) (k : Nat) (s : Bool) (rep : List String)
    (h : dispatch st d ctx n k = .ok (d', s, rep)) : ItemFrame d d' :=
  (dispatch_wrote st d d' ctx n k s rep h).itemFrame

end Casm
