import Casm.Model.Format
import Casm.Proofs.BitsLemmas
import Casm.Proofs.ListLemmas
/-! `toBitsMSB` undoes `bitsVal` (read through `ofBits` and `Nat.testBit`), so a chunk value expands to the bits it
    was read from. -/
namespace Casm

theorem bitsVal_eq_ofBits (l : List Bool) : bitsVal l = ofBits l := rfl

theorem bitsVal_lt (l : List Bool) : bitsVal l < 2 ^ l.length := ofBits_lt l

theorem toBitsMSB_eq_testBit (k n : Nat) : toBitsMSB k n = ((List.range k).map n.testBit).reverse := by
  rw [← List.map_reverse, List.range_eq_range', List.reverse_range', List.map_map]
  simp only [toBitsMSB, Nat.testBit_eq_decide_div_mod_eq, Function.comp_def, List.range_eq_range', Nat.zero_add]
  rfl

theorem toBitsMSB_bitsVal (l : List Bool) : toBitsMSB l.length (bitsVal l) = l := by
  rw [toBitsMSB_eq_testBit, List.reverse_eq_iff, bitsVal_eq_ofBits, funext (testBit_ofBits l), ← List.length_reverse]
  exact map_getD_range _ _

theorem chunkVal_bits (bits : Bits) (start k : Nat) :
    toBitsMSB k (chunkVal bits start k) = (List.range k).map fun j => readBit bits (start + j) := by
  have := toBitsMSB_bitsVal ((List.range k).map fun j => readBit bits (start + j))
  rwa [List.length_map, List.length_range] at this

end Casm
