import Casm.Model.Resolve
import Casm.Proofs.EvalEqns
/-!
# Casm.Proofs.ResolveLemmas — what the definitions of `Casm.Model.Resolve` do, said once

Lemmas about `chooseEncoding` and `evalVariable`; the functions of the mutual block one level of fuel down (matches,
argument lists, candidate lists, the loop of an `asm` block), written with the steps of `Casm.Proofs.EvalEqns` (`thenV`,
`thenArgs`) and `Except.bind`, so that a proof about the block goes step by step as one about `eval` does; the fuel at
which the item resolvers enter the block.
-/
namespace Casm

/-- the passes that allow the choice of `resolve_encoding`: a guessing one, or any pass if the choice is not a tie -/
theorem chooseEncoding_some {g : Bool} {rs : List Resolution} {encs : List (Nat × BI)} {rep : List String}
    (h : chooseEncoding g rs = (some encs, rep)) :
    rep = [] ∧ ∀ g', g' = true ∨ encs.length ≤ 1 → chooseEncoding g' rs = (some encs, []) := by
  unfold chooseEncoding at h ⊢
  dsimp only at h ⊢
  rcases ite_eq_cases h with ⟨_, h⟩ | ⟨hne, h⟩
  · rcases ite_eq_cases h with ⟨_, h⟩ | ⟨_, h⟩ <;> cases h
  · rcases ite_eq_cases h with ⟨_, h⟩ | ⟨_, h⟩
    · cases h
    · cases h
      refine ⟨rfl, fun g' hg => ?_⟩
      rw [if_neg hne, if_neg]
      rcases hg with rfl | hl
      · exact Bool.false_ne_true
      · rw [Bool.and_eq_true, decide_eq_true_eq]
        exact fun ht => absurd ht.2 (Nat.not_lt.2 hl)

/-- `eval_variable` for a name that is not built in -/
def symbolValue (st : Static) (defs : Defs) (ctx : RCtx) (level : Nat) (path : List String) : Except String Value :=
  (st.decls.symbols.getByName ctx.symCtx level path).bind fun r =>
    if (defs.sym r).value = .unknown ∧ ctx.canGuess = false then .error s!"unresolved symbol `{displayName level path}`"
    else .ok (defs.sym r).value

private theorem symbolValue_tail (st : Static) (defs : Defs) (ctx : RCtx) (level : Nat) (path : List String) :
    (match st.decls.symbols.getByName ctx.symCtx level path with
      | .error e => .error e
      | .ok r =>
        match (defs.sym r).value with
        | .unknown => if !ctx.canGuess then .error s!"unresolved symbol `{displayName level path}`" else .ok (defs.sym r).value
        | _ => .ok (defs.sym r).value) = symbolValue st defs ctx level path := by
  unfold symbolValue
  cases st.decls.symbols.getByName ctx.symCtx level path with
  | error e => rfl
  | ok r =>
    dsimp only [Except.bind]
    cases (defs.sym r).value with
    | unknown => cases ctx.canGuess <;> rfl
    | _ => exact (if_neg fun h => nomatch h.1).symm

/-- which case of `eval_variable` applies depends on the reference alone -/
theorem evalVariable_cases (level : Nat) (path : List String) :
    (∃ n, level = 0 ∧ path = [n] ∧ (n = "$" ∨ n = "pc") ∧
      ∀ st defs ctx, evalVariable st defs ctx level path = (evalAddress defs ctx ctx.canGuess).map fun a => .int ⟨a, none⟩) ∨
    (∃ n, level = 0 ∧ path = [n] ∧ isAsmBuiltinName n = true ∧
      ∀ st defs ctx, evalVariable st defs ctx level path = .ok (.asmBuiltin n)) ∨
    (∀ st defs ctx, evalVariable st defs ctx level path = symbolValue st defs ctx level path) := by
  match level, path with
  | 0, [n] =>
    by_cases hp : (n == "$" || n == "pc") = true
    · exact .inl ⟨n, rfl, rfl, by simpa using hp, fun st defs ctx => by simp only [evalVariable, beq_self_eq_true, hp, if_true]⟩
    · by_cases hb : isAsmBuiltinName n = true
      · exact .inr (.inl ⟨n, rfl, rfl, hb, fun st defs ctx => by
          simp only [evalVariable, beq_self_eq_true, hp, hb, if_true, Bool.false_eq_true, if_false]⟩)
      · refine .inr (.inr fun st defs ctx => ?_)
        simp only [evalVariable, beq_self_eq_true, hp, hb, if_true, Bool.false_eq_true, if_false]
        exact symbolValue_tail st defs ctx 0 [n]
  -- any other reference fails the test for a built-in name by computation
  | 0, [] => exact .inr (.inr fun st defs ctx => symbolValue_tail st defs ctx 0 [])
  | 0, _ :: _ :: _ => exact .inr (.inr fun st defs ctx => symbolValue_tail st defs ctx 0 _)
  | l + 1, p => exact .inr (.inr fun st defs ctx => symbolValue_tail st defs ctx (l + 1) p)

theorem asmBuiltin_cases (n : String) (h : isAsmBuiltinName n = true) : n = "incbin" ∨ n = "incbinstr" ∨ n = "inchexstr" := by
  unfold isAsmBuiltinName at h
  rw [Bool.or_eq_true, Bool.or_eq_true, beq_iff_eq, beq_iff_eq, beq_iff_eq, or_assoc] at h
  exact h

theorem evalVariable_asmBuiltin (st : Static) (defs : Defs) (ctx : RCtx) (n : String) (h : isAsmBuiltinName n = true) :
    evalVariable st defs ctx 0 [n] = .ok (.asmBuiltin n) := by
  rcases asmBuiltin_cases n h with rfl | rfl | rfl <;> simp [evalVariable, isAsmBuiltinName]

theorem evalVariable_nobuiltin (st : Static) (defs : Defs) (ctx : RCtx) (level : Nat) (path : List String)
    (hg : ¬ (level == 0 &&
        (path.head? == some "$" || path.head? == some "pc" || (Option.map isAsmBuiltinName path.head?).getD false)) = true) :
    evalVariable st defs ctx level path = symbolValue st defs ctx level path := by
  rcases evalVariable_cases level path with ⟨n, rfl, rfl, hn, -⟩ | ⟨n, rfl, rfl, hn, -⟩ | e
  · exact absurd (by rcases hn with rfl | rfl <;> simp) hg
  · exact absurd (by simp [hn]) hg
  · exact e st defs ctx

theorem mkEnv_fn_asm (st : Static) (defs1 defs2 : Defs) (fuel : Nat) (ctx1 ctx2 : RCtx) (n : String) (vs : List Value) (c : ECtx) :
    (mkEnv st defs2 fuel ctx2).fn (.asmBuiltin n) vs c = (mkEnv st defs1 fuel ctx1).fn (.asmBuiltin n) vs c := by
  cases fuel <;> rw [mkEnv, mkEnv]

section
variable (st : Static) (defs : Defs) (fuel : Nat) (ctx : RCtx)

theorem mkEnv_var : (mkEnv st defs fuel ctx).var = evalVariable st defs ctx := by
  cases fuel <;> rw [mkEnv]

theorem mkEnv_fn (idx : Nat) (args : List Value) (ectx : ECtx) :
    (mkEnv st defs (fuel + 1) ctx).fn (.fn idx) args ectx =
      if ectx.depth ≥ Gen.EVAL_RECURSION_DEPTH_MAX then .error recursionErr
      else if args.length != (defs.fns.getD idx default).params.length then
        .error (argCountErr (defs.fns.getD idx default).params.length args.length)
      else (eval (mkEnv st defs fuel ctx)
        { locals := ((defs.fns.getD idx default).params.zip args).foldl (fun l p => l.set p.1 p.2) [], substs := [],
          depth := ectx.depth + 1 } (defs.fns.getD idx default).body).map (·.1) := by
  rw [mkEnv]

theorem mkEnv_asm : (mkEnv st defs (fuel + 1) ctx).asm = evalAsm st defs fuel ctx := by
  rw [mkEnv]

abbrev ruleOf (defs : Defs) (rdi ri : Nat) : Rule := (defs.ruledefs.getD rdi default).rules.getD ri default

theorem resolveMatch_succ (m : IMatch) (argCtx : ECtx) :
    resolveMatch st defs (fuel + 1) ctx m argCtx =
      thenArgs (resolveArgs st defs fuel ctx (ruleOf defs m.ruledef m.rule) m.args 0 argCtx argCtx.deepened) fun ruleCtx c =>
        (eval (mkEnv st defs fuel ctx) ruleCtx (ruleOf defs m.ruledef m.rule).expr).map fun r => (r.1, c) := by
  rw [resolveMatch]
  cases resolveArgs st defs fuel ctx (ruleOf defs m.ruledef m.rule) m.args 0 argCtx argCtx.deepened with
  | error e => rfl
  | ok x => obtain ⟨s, c⟩ := x; cases s <;> rfl

def argValue (ty : RParamTy) : IArg → ECtx → Except String (Value × ECtx)
  | .expr e _ _ _, c => thenV id (eval (mkEnv st defs fuel ctx) c e) fun v c => retV c (checkAndConstrain ty v)
  | .nested nm _ _ _, c => resolveMatch st defs fuel ctx nm c

theorem resolveArgs_nil (rule : Rule) (i : Nat) (argCtx ruleCtx : ECtx) :
    resolveArgs st defs (fuel + 1) ctx rule [] i argCtx ruleCtx = .ok (.inr ruleCtx, argCtx) := by
  rw [resolveArgs]

theorem resolveArgs_cons (rule : Rule) (a : IArg) (rest : List IArg) (i : Nat) (argCtx ruleCtx : ECtx) :
    resolveArgs st defs (fuel + 1) ctx rule (a :: rest) i argCtx ruleCtx =
      thenV Sum.inl (argValue st defs fuel ctx (rule.params.getD i ("", .unspecified)).2 a argCtx) fun v c =>
        resolveArgs st defs fuel ctx rule rest (i + 1) c
          ((ruleCtx.setLocal (rule.params.getD i ("", .unspecified)).1 v).setSubst (rule.params.getD i ("", .unspecified)).1 a.excerpt) := by
  cases a with
  | expr e s t x =>
    rw [resolveArgs, argValue]
    cases eval (mkEnv st defs fuel ctx) argCtx e with
    | error m => rfl
    | ok y =>
      obtain ⟨v, c⟩ := y
      rw [thenV_ok]
      dsimp only
      by_cases hv : v.shouldPropagate = true
      · rw [if_pos hv, if_pos hv]; exact (if_pos hv).symm
      · rw [if_neg hv, if_neg hv]
        cases checkAndConstrain (rule.params.getD i ("", .unspecified)).2 v <;> rfl
  | nested nm s t x => rw [resolveArgs]; exact thenV_intro fun _ _ => rfl

/-- `expect_error_or_sized_bigint` -/
def resolutionOf : Value → Except String Resolution
  | .unknown => .ok .unresolved
  | .failed msg => .ok (.failed msg)
  | .int b => if b.size.isSome then .ok (.resolved b) else .error "expected integer with definite size"
  | .str s e => .ok (.resolved (strToBigint s e))
  | _ => .error "expected integer with definite size"

theorem resolveMatches_nil (argCtx : ECtx) (acc : List Resolution) :
    resolveMatches st defs (fuel + 1) ctx [] argCtx acc = .ok (acc.reverse, argCtx) := by
  rw [resolveMatches]

theorem resolveMatches_cons (m : IMatch) (rest : List IMatch) (argCtx : ECtx) (acc : List Resolution) :
    resolveMatches st defs (fuel + 1) ctx (m :: rest) argCtx acc =
      (resolveMatch st defs fuel ctx m argCtx).bind fun x =>
        (resolutionOf x.1).bind fun r => resolveMatches st defs fuel ctx rest x.2 (r :: acc) := by
  rw [resolveMatches]
  cases resolveMatch st defs fuel ctx m argCtx with
  | error e => rfl
  | ok x =>
    obtain ⟨v, c⟩ := x
    cases v with
    | int b => dsimp only [resolutionOf, Except.bind]; cases b.size.isSome <;> rfl
    | _ => rfl

theorem resolveEncoding_succ (cands : List IMatch) (argCtx : ECtx) :
    resolveEncoding st defs (fuel + 1) ctx cands argCtx =
      (resolveMatches st defs fuel ctx cands argCtx []).map fun x => chooseEncoding ctx.canGuess x.1 := by
  rw [resolveEncoding]
  cases resolveMatches st defs fuel ctx cands argCtx [] <;> rfl

def asmFinish (nodes : List AstNode) (ectx : ECtx) (labels : List (String × Value)) : Except String Value :=
  (asmOnce st defs fuel { ctx with first := false, last := ctx.last } nodes ectx labels ctx.cur ⟨0, some 0⟩ false).bind fun x =>
    if !x.2.1 then .ok x.1 else if ctx.canGuess then .ok .unknown else .error "`asm` block did not converge"

theorem asmIterate_succ (nodes : List AstNode) (ectx : ECtx) (labels : List (String × Value)) (budget it : Nat) :
    asmIterate st defs (fuel + 1) ctx nodes ectx labels budget it =
      if it > budget then asmFinish st defs fuel ctx nodes ectx labels
      else (asmOnce st defs fuel { ctx with first := it == 1, last := ctx.last && it == budget } nodes ectx labels ctx.cur
          ⟨0, some 0⟩ false).bind fun x =>
        if !x.2.1 then asmFinish st defs fuel ctx nodes ectx x.2.2 else asmIterate st defs fuel ctx nodes ectx x.2.2 budget (it + 1) := by
  rw [asmIterate]
  unfold asmFinish
  -- branch by branch, by cases on the result of the pass (`split` is slow on a goal of this size)
  refine ite_congr rfl (fun _ => ?_) fun _ => ?_
  · dsimp only
    cases asmOnce st defs fuel _ nodes ectx labels ctx.cur _ false <;> rfl
  · cases asmOnce st defs fuel _ nodes ectx labels ctx.cur _ false with
    | error e => rfl
    | ok x =>
      refine ite_congr rfl (fun _ => ?_) fun _ => rfl
      dsimp only
      cases asmOnce st defs fuel _ nodes ectx x.2.2 ctx.cur _ false <;> rfl

end

theorem evalFuel_succ' : evalFuel = (evalFuel - 1) + 1 := by unfold evalFuel; omega

/-- `resolve_instruction` chooses among the resolutions that `allDefinite` (`Casm.Model.Assemble`) inspects: that one calls
    `resolveMatches … (evalFuel - 1)` itself -/
theorem resolveEncoding_evalFuel (st : Static) (d : Defs) (ctx : RCtx) (cands : List IMatch) (a : ECtx) :
    resolveEncoding st d evalFuel ctx cands a =
      (resolveMatches st d (evalFuel - 1) ctx cands a []).map fun x => chooseEncoding ctx.canGuess x.1 := by
  rw [evalFuel_succ', resolveEncoding_succ]; rfl

end Casm
