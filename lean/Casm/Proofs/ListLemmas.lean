/-!
# Casm.Proofs.ListLemmas — `List.getD` against `List.length`, `List.set` and `++`

The tables of the model are lists read with `getD`, written with `set` and grown with `++`; a node list is spoken of
through its splits `pre ++ n :: post` (`split_inj`, `split_after`, and `flatMap_split` for a list that is a `flatMap`).
-/
namespace Casm

theorem getD_lt' {α} (l : List α) (i : Nat) (d : α) (h : i < l.length) : l.getD i d = l[i] := by
  simp [List.getD_eq_getElem?_getD, h]

theorem getD_ge' {α} (l : List α) (i : Nat) (d : α) (h : ¬ i < l.length) : l.getD i d = d := by
  simp [List.getD_eq_getElem?_getD, Nat.not_lt.mp h]

theorem lt_of_getD_ne {α} {l : List α} {i : Nat} {a : α} (h : l.getD i a ≠ a) : i < l.length :=
  Decidable.by_contra fun hl => h (getD_ge' l i a hl)

theorem getD_set {α} (l : List α) (i j : Nat) (a d : α) :
    (l.set i a).getD j d = if i = j ∧ i < l.length then a else l.getD j d := by
  simp only [List.getD_eq_getElem?_getD, List.getElem?_set]
  by_cases hij : i = j
  · subst hij
    by_cases hl : i < l.length <;> simp [hl]
  · simp [hij]

theorem getD_set_eq_or {α} (l : List α) (i j : Nat) (a d : α) :
    (l.set i a).getD j d = l.getD j d ∨ (i = j ∧ (l.set i a).getD j d = a) := by
  rw [getD_set]
  split
  next h => exact .inr ⟨h.1, rfl⟩
  next => exact .inl rfl

theorem getD_set_of_flag {α} {l : List α} {i : Nat} {x dflt : α} (p : α → Bool) (h1 : p (l.getD i dflt) = false)
    (h2 : p ((l.set i x).getD i dflt) = true) : (l.set i x).getD i dflt = x := by
  rcases getD_set_eq_or l i i x dflt with h | ⟨_, h⟩
  · rw [h, h1] at h2; cases h2
  · exact h

theorem getD_set_ne {α} (l : List α) (i j : Nat) (a d : α) (h : i ≠ j) : (l.set i a).getD j d = l.getD j d := by
  rw [getD_set, if_neg fun hw => h hw.1]

theorem getD_set_self_lt {α} (l : List α) (i : Nat) (a d : α) (h : i < l.length) : (l.set i a).getD i d = a := by
  rw [getD_set, if_pos ⟨rfl, h⟩]

theorem set_getD_self {α} (l : List α) (i : Nat) (d : α) : l.set i (l.getD i d) = l := by
  by_cases h : i < l.length
  · rw [getD_lt' l i d h, List.set_getElem_self]
  · exact List.set_eq_of_length_le (Nat.not_lt.mp h)

theorem getD_append {α} (l m : List α) (i : Nat) (d : α) :
    (l ++ m).getD i d = if i < l.length then l.getD i d else m.getD (i - l.length) d := by
  simp only [List.getD_eq_getElem?_getD, List.getElem?_append]
  split <;> rfl

theorem getD_append_replicate {α} (l : List α) (n i : Nat) (d : α) : (l ++ List.replicate n d).getD i d = l.getD i d := by
  rw [getD_append]
  by_cases h : i < l.length
  · rw [if_pos h]
  · rw [if_neg h, getD_ge' l i d h, List.getD_eq_getElem?_getD, List.getElem?_replicate]
    split <;> rfl

theorem all_getD {α} (l : List α) (p : α → Bool) (d : α) (hd : p d = true) (h : l.all p = true) (i : Nat) :
    p (l.getD i d) = true := by
  by_cases hi : i < l.length
  · rw [getD_lt' l i d hi]; exact List.all_eq_true.mp h _ (List.getElem_mem hi)
  · rw [getD_ge' l i d hi]; exact hd

theorem ext_getD {α} {l₁ l₂ : List α} (d : α) (hl : l₁.length = l₂.length) (h : ∀ i, l₁.getD i d = l₂.getD i d) : l₁ = l₂ :=
  List.ext_getElem hl fun i h1 h2 => by rw [← getD_lt' l₁ i d h1, ← getD_lt' l₂ i d h2]; exact h i

theorem map_eq_self_of_getD {α} (l : List α) (f : α → α) (d : α) (h : ∀ i, f (l.getD i d) = l.getD i d) : l.map f = l :=
  List.ext_getElem (List.length_map f) fun i _ h2 => by rw [List.getElem_map, ← getD_lt' l i d h2]; exact h i

theorem map_getD_range {α} (l : List α) (d : α) : (List.range l.length).map (fun j => l.getD j d) = l :=
  List.ext_getElem (by simp) fun i _ h2 => by rw [List.getElem_map, List.getElem_range, getD_lt' l i d h2]

theorem split_inj {α} {l pre pre' post post' : List α} {a a' : α} (h : l = pre ++ a :: post) (h' : l = pre' ++ a' :: post')
    (hl : pre'.length = pre.length) : pre' = pre ∧ a' = a ∧ post' = post := by
  obtain ⟨h1, h2⟩ := List.append_inj (h'.symm.trans h) hl
  cases h2
  exact ⟨h1, rfl, rfl⟩

theorem split_after {α} {l pre post : List α} {x y : α} (hs : l = pre ++ x :: post) (hm : y ∈ post) :
    ∃ p1 p2, l = (pre ++ x :: p1) ++ y :: p2 := by
  obtain ⟨p1, p2, rfl⟩ := List.append_of_mem hm
  exact ⟨p1, p2, hs.trans (List.append_assoc pre (x :: p1) (y :: p2)).symm⟩

theorem flatMap_split {α β} (f : α → List β) {l : List α} {done rest : List β} {x : β}
    (h : l.flatMap f = done ++ x :: rest) :
    ∃ pre a post d r, l = pre ++ a :: post ∧ f a = d ++ x :: r ∧ done = pre.flatMap f ++ d ∧ rest = r ++ post.flatMap f := by
  induction l generalizing done with
  | nil => cases done <;> cases h
  | cons m ms ih =>
    rw [List.flatMap_cons] at h
    rcases List.append_eq_append_iff.mp h with ⟨c, hc1, hc2⟩ | ⟨c, hc1, hc2⟩
    · obtain ⟨pre, a, post, d, r, e1, e2, e3, e4⟩ := ih hc2
      exact ⟨m :: pre, a, post, d, r, by rw [e1]; rfl, e2, by rw [hc1, e3, List.flatMap_cons, List.append_assoc], e4⟩
    · cases c with
      | nil =>
        obtain ⟨pre, a, post, d, r, e1, e2, e3, e4⟩ := ih (done := []) hc2.symm
        refine ⟨m :: pre, a, post, d, r, by rw [e1]; rfl, e2, ?_, e4⟩
        rw [List.flatMap_cons, List.append_assoc, ← e3, hc1, List.append_nil, List.append_nil]
      | cons y c =>
        injection hc2 with hx hr
        subst hx
        exact ⟨[], m, ms, done, c, rfl, hc1, rfl, hr⟩

end Casm
