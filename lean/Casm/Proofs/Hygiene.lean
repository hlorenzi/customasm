import Casm.Model.Resolve
/-!
# Casm.Proofs.Hygiene — which locals an `asm` block sees

`hygienize` (model of `hygienize_locals_for_asm_subst`) builds the evaluation context of the
instructions of a block from the context of the production that contains the block: every local whose
name does not already begin with `__` is kept under the name `__` ++ name, every other one is dropped.
Hence the locals visible inside a block are exactly the renamed locals of *that* production — which is
what makes `{v}` (a local passed by value, substituted as the text `__v`) work, and also why a name that
was hygienised one level up (`__y` of a calling block) is unbound or captured one level down (F40).
-/
namespace Casm

theorem hygienizeName_inj (a b : String) : (hygienizeName a == hygienizeName b) = (a == b) := by
  rw [Bool.eq_iff_iff, beq_iff_eq, beq_iff_eq]
  exact String.append_right_inj "__"

def renLocals (l : Locals) : Locals :=
  (l.filter (fun p => !p.1.startsWith "__")).map (fun p => (hygienizeName p.1, p.2))

theorem hygienize_locals (c : ECtx) : (hygienize c).locals = renLocals c.locals := rfl

theorem renLocals_get (l : Locals) (m : String) (hm : m.startsWith "__" = false) :
    (renLocals l).get (hygienizeName m) = l.get m := by
  -- an entry is un-prefixed and renamed to `__m` exactly if it is the entry for `m`
  have hp (a : String × Value) : (!a.1.startsWith "__" && hygienizeName a.1 == hygienizeName m) = (a.1 == m) := by
    rw [hygienizeName_inj]
    cases ha : a.1 == m
    · rw [Bool.and_false]
    · rw [eq_of_beq ha, hm]; rfl
  unfold renLocals Locals.get
  rw [List.find?_map, List.find?_filter, Option.map_map]
  simp only [Function.comp_def, Bool.decide_and, Bool.decide_eq_true, hp]

theorem renLocals_get_some (l : Locals) (k : String) (v : Value) (h : (renLocals l).get k = some v) :
    ∃ m, k = hygienizeName m ∧ m.startsWith "__" = false ∧ l.get m = some v := by
  obtain ⟨y, hf, -⟩ := Option.map_eq_some_iff.mp h
  obtain ⟨x, hx, rfl⟩ := List.mem_map.mp (List.mem_of_find?_eq_some hf)
  have hk : hygienizeName x.1 = k := by simpa using List.find?_some hf
  have hx' : x.1.startsWith "__" = false := by simpa using (List.mem_filter.mp hx).2
  exact ⟨x.1, hk.symm, hx', by rw [← renLocals_get l x.1 hx', hk, h]⟩

end Casm
