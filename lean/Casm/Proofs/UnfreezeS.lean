import Casm.Proofs.ViewCongr
import Casm.Proofs.ItemStep
/-!
# Casm.Proofs.UnfreezeS — a resolver step commutes with clearing first-pass marks

`Defs.unfS H` clears the marks of instructions and data elements and the `resolved` mark of every
symbol outside `H` (the symbols marked by the front end for reasons other than the static
optimisation: command-line defines, functions).  The unoptimised assembler works on such states.
`Defs.unfreeze`, which keeps every symbol's mark, is the case `H = fun _ => true` (`unfS_true`).

Evaluation does not see the marks (`unfS_view`), so a resolver in step form (`Casm.Proofs.ItemStep`)
differs on the cleared state in the item's own entry only.  In a pass that is not the first, on an
item that carries no mark, the step on `d.unfS H` is the step on `d`, cleared (`dispatch_us`); an
item that carries one is skipped (`dispatch_markedS`).
-/
namespace Casm

theorem unfS_symbols (H : Nat → Bool) (d : Defs) :
    (d.unfS H).symbols = d.symbols.mapIdx fun i o => o.map (·.keep (H i)) := by
  refine (List.mapIdx_eq_iff.mpr fun i => ?_).symm
  show ((List.range d.symbols.length).map _)[i]? = _
  rw [List.getElem?_map]
  by_cases hi : i < d.symbols.length
  · rw [List.getElem?_range hi, List.getElem?_eq_getElem hi]
    simp only [Option.map_some, List.getD_eq_getElem?_getD, List.getElem?_eq_getElem hi, Option.getD_some]
  · rw [List.getElem?_eq_none (by simpa using hi), List.getElem?_eq_none (by simpa using hi)]; rfl

theorem unfS_symbols_getD (H : Nat → Bool) (d : Defs) (r : Nat) :
    (d.unfS H).symbols.getD r none = (d.symbols.getD r none).map fun s => s.keep (H r) := by
  rw [unfS_symbols, List.getD_eq_getElem?_getD, List.getD_eq_getElem?_getD, List.getElem?_mapIdx]
  cases d.symbols[r]? <;> rfl

theorem sym_unfS (H : Nat → Bool) (d : Defs) (r : Nat) : (d.unfS H).sym r = (d.sym r).keep (H r) := by
  unfold Defs.sym
  rw [unfS_symbols_getD]
  cases d.symbols.getD r none <;> rfl

theorem unfS_view (H : Nat → Bool) (d : Defs) : SameView d (d.unfS H) :=
  ⟨fun r => by rw [sym_unfS]; rfl, rfl, rfl, rfl⟩

theorem unfS_length (H : Nat → Bool) (d : Defs) : (d.unfS H).symbols.length = d.symbols.length := by
  rw [unfS_symbols, List.length_mapIdx]

theorem setSym_unfS (H : Nat → Bool) (d : Defs) (r : Nat) (s : SymDef) :
    (d.setSym r s).unfS H = (d.unfS H).setSym r (s.keep (H r)) := by
  have hsy : ((d.setSym r s).unfS H).symbols = (d.unfS H).symbols.set r (some (s.keep (H r))) := by
    rw [unfS_symbols, unfS_symbols]; exact List.mapIdx_set
  exact congrArg (fun l => ({ d.unfreeze with symbols := l } : Defs)) hsy

theorem keep_value (s : SymDef) (b : Bool) (v : Value) : ({ s.keep b with value := v } : SymDef) = ({ s with value := v } : SymDef).keep b := rfl

theorem unfS_instr (H : Nat → Bool) (d : Defs) (ref : Nat) :
    (d.unfS H).instrs.getD ref default = { (d.instrs.getD ref default) with resolved := false } := by
  simp only [Defs.unfS, Defs.unfreeze, List.getD_eq_getElem?_getD, List.getElem?_map]
  cases d.instrs[ref]? <;> rfl

theorem unfS_data (H : Nat → Bool) (d : Defs) (ref : Nat) :
    (d.unfS H).datas.getD ref default = { (d.datas.getD ref default) with resolved := false } := by
  simp only [Defs.unfS, Defs.unfreeze, List.getD_eq_getElem?_getD, List.getElem?_map]
  cases d.datas[ref]? <;> rfl

theorem unfS_setInstr (H : Nat → Bool) (d : Defs) (ref : Nat) (x : InstrDef) :
    ({ d.unfS H with instrs := (d.unfS H).instrs.set ref { x with resolved := false } } : Defs) =
      ({ d with instrs := d.instrs.set ref x } : Defs).unfS H := by
  simp only [Defs.unfS, Defs.unfreeze, List.map_set]

theorem unfS_setData (H : Nat → Bool) (d : Defs) (ref : Nat) (x : DataDef) :
    ({ d.unfS H with datas := (d.unfS H).datas.set ref { x with resolved := false } } : Defs) =
      ({ d with datas := d.datas.set ref x } : Defs).unfS H := by
  simp only [Defs.unfS, Defs.unfreeze, List.map_set]

theorem keep_true (s : SymDef) : s.keep true = s := by
  cases s; simp only [SymDef.keep, Bool.and_true]

theorem unfS_true (d : Defs) : d.unfS (fun _ => true) = d.unfreeze := by
  have hs : (d.unfS fun _ => true).symbols = d.symbols := by
    rw [unfS_symbols]
    exact List.mapIdx_eq_iff.mpr fun i => by simp only [keep_true, Option.map_id']
  exact congrArg (fun l => ({ d.unfreeze with symbols := l } : Defs)) hs

theorem unfreeze_sym (d : Defs) (r : Nat) : d.unfreeze.sym r = d.sym r := rfl

theorem unfreeze_setSym (d : Defs) (r : Nat) (x : SymDef) : d.unfreeze.setSym r x = (d.setSym r x).unfreeze := rfl

theorem unfreeze_instr (d : Defs) (ref : Nat) :
    d.unfreeze.instrs.getD ref default = { (d.instrs.getD ref default) with resolved := false } :=
  unfS_instr (fun _ => true) d ref

def usRes (H : Nat → Bool) (r : Defs × Bool × List String) : Defs × Bool × List String := (r.1.unfS H, r.2.1, r.2.2)

theorem commit_unfS {α} (L : Slot α) (H : Nat → Bool) (d : Defs) (c : α → α) {V V' : Verdict α}
    (hset : ∀ a, L.set (d.unfS H) (c a) = (L.set d a).unfS H) (hV : V' = V.map fun y => (y.1.map c, y.2)) :
    L.commit (d.unfS H) V' = (L.commit d V).map (usRes H) := by
  subst hV
  cases V with
  | error m => rfl
  | ok y =>
    obtain ⟨o, s, r⟩ := y
    cases o with
    | none => rfl
    | some a => exact congrArg (fun x => Except.ok (x, s, r)) (hset a)

/-- the entry itself carries no mark -/
theorem commit_unfS_same {α} (L : Slot α) (H : Nat → Bool) (d : Defs) (V : Verdict α)
    (hset : ∀ a, L.set (d.unfS H) a = (L.set d a).unfS H) :
    L.commit (d.unfS H) V = (L.commit d V).map (usRes H) :=
  commit_unfS L H d id hset (by cases V with | error m => rfl | ok y => obtain ⟨o, s, r⟩ := y; cases o <;> rfl)

theorem converge_map {α} (c : α → α) (last : Bool) (msg : String) (changed : Bool) (a : α) (check : Except String Unit) :
    converge last msg changed (c a) check = (converge last msg changed a check).map fun y => (y.1.map c, y.2) := by
  cases changed with
  | true => rfl
  | false => cases check <;> rfl

theorem resolveRes_us (H : Nat → Bool) (st : Static) (d : Defs) (ctx : RCtx) (ref : Nat) (e : Expr) :
    resolveRes st (d.unfS H) ctx ref e = (resolveRes st d ctx ref e).map (usRes H) := by
  rw [resolveRes_eq, resolveRes_eq, resolverEval_view st (unfS_view H d)]
  exact commit_unfS_same (resSlot ref) H d _ fun _ => rfl

theorem resolveAlign_us (H : Nat → Bool) (st : Static) (d : Defs) (ctx : RCtx) (ref : Nat) (e : Expr) :
    resolveAlign st (d.unfS H) ctx ref e = (resolveAlign st d ctx ref e).map (usRes H) := by
  rw [resolveAlign_eq, resolveAlign_eq, resolverEval_view st (unfS_view H d)]
  exact commit_unfS_same (alignSlot ref) H d _ fun _ => rfl

theorem resolveAddr_us (H : Nat → Bool) (st : Static) (d : Defs) (ctx : RCtx) (ref : Nat) (e : Expr) :
    resolveAddr st (d.unfS H) ctx ref e = (resolveAddr st d ctx ref e).map (usRes H) := by
  rw [resolveAddr_eq, resolveAddr_eq, resolverEval_view st (unfS_view H d)]
  exact commit_unfS_same (addrSlot ref) H d _ fun _ => rfl

theorem resolveAssert_us (H : Nat → Bool) (st : Static) (d : Defs) (ctx : RCtx) (e : Expr) :
    resolveAssert st (d.unfS H) ctx e = (resolveAssert st d ctx e).map (usRes H) := by
  rw [resolveAssert_eq, resolveAssert_eq, resolverEval_view st (unfS_view H d)]
  exact commit_unfS_same noSlot H d _ fun _ => rfl

theorem resolveLabel_us (H : Nat → Bool) (st : Static) (d : Defs) (ctx : RCtx) (ref : Nat) :
    resolveLabel st (d.unfS H) ctx ref = (resolveLabel st d ctx ref).map (usRes H) := by
  rw [resolveLabel_eq, resolveLabel_eq, evalAddress_view (unfS_view H d), sym_unfS]
  exact commit_unfS (symSlot ref) H d (SymDef.keep · (H ref)) (fun a => (setSym_unfS H d ref a).symm)
    (bind_map_congr fun a => converge_map (SymDef.keep · (H ref)) _ _ _ { d.sym ref with value := .int ⟨a, none⟩ } _)

theorem resolveConstant_us (H : Nat → Bool) (st : Static) (d : Defs) (ctx : RCtx) (ref : Nat) (e : Expr)
    (hf : ctx.first = false) (hm : (d.sym ref).resolved = true → H ref = true) :
    resolveConstant st (d.unfS H) ctx ref e = (resolveConstant st d ctx ref e).map (usRes H) := by
  rw [resolveConstant_eq, resolveConstant_eq, resolverEval_view st (unfS_view H d), sym_unfS, hf, Bool.and_false]
  refine commit_unfS (symSlot ref) H d (SymDef.keep · (H ref)) (fun a => (setSym_unfS H d ref a).symm) ?_
  cases hr : (d.sym ref).resolved with
  | true =>
    have : ((d.sym ref).keep (H ref)).resolved = true := by simp only [SymDef.keep, hr, hm hr, Bool.and_self]
    rw [this]; rfl
  | false =>
    have : ((d.sym ref).keep (H ref)).resolved = false := by simp only [SymDef.keep, hr, Bool.false_and]
    rw [this]
    exact bind_map_congr fun x =>
      converge_map (SymDef.keep · (H ref)) _ _ _ { d.sym ref with value := x.1, resolved := false && (d.sym ref).known } _

theorem resolveInstruction_us (H : Nat → Bool) (st : Static) (d : Defs) (ctx : RCtx) (ref : Nat)
    (hr : (d.instrs.getD ref default).resolved = false) (hf : ctx.first = false) :
    resolveInstruction st (d.unfS H) ctx ref = (resolveInstruction st d ctx ref).map (usRes H) := by
  have hins : (d.unfS H).instrs.getD ref default = d.instrs.getD ref default := by rw [unfS_instr, ← hr]
  rw [resolveInstruction_eq, resolveInstruction_eq, resolveEncoding_congr (.refl st) (unfS_view H d),
    allDefinite_congr (.refl st) (unfS_view H d), hins, hr, hf, Bool.and_false]
  refine commit_unfS (instrSlot ref) H d (fun x => { x with resolved := false }) (unfS_setInstr H d ref) ?_
  -- in a later pass nothing is frozen: the entry written carries the mark of the old one, none
  refine bind_map_congr fun x => map_eq_self fun y hy => ?_
  obtain ⟨o, s, r⟩ := y
  rcases instrStep_ok hy with ⟨_, _, _, _, hm, _⟩ | ⟨_, _, _, _, _, rfl, _⟩ | ⟨rfl, _⟩
  · cases hm
  · show (some _, s, r) = _; rw [hr]
  · rfl

theorem resolveData_us (H : Nat → Bool) (st : Static) (d : Defs) (ctx : RCtx) (ref : Nat) (sz : Option Nat) (e : Expr)
    (hr : (d.datas.getD ref default).resolved = false) (hf : ctx.first = false) :
    resolveData st (d.unfS H) ctx ref sz e = (resolveData st d ctx ref sz e).map (usRes H) := by
  have hx : (d.unfS H).datas.getD ref default = d.datas.getD ref default := by rw [unfS_data, ← hr]
  rw [resolveData_eq, resolveData_eq, resolverEval_view st (unfS_view H d), hx, hr, hf, Bool.and_false]
  refine commit_unfS (dataSlot ref) H d (fun x => { x with resolved := false }) (unfS_setData H d ref) ?_
  refine bind_map_congr fun x => map_eq_self fun y hy => ?_
  obtain ⟨o, s, r⟩ := y
  obtain ⟨_, _, _, hy⟩ := dataStep_ok hy
  rcases storeStep_ok hy with ⟨_, _, hm, _⟩ | ⟨_, _, _, rfl, _⟩ | ⟨_, rfl, _⟩
  · cases hm
  · show (some _, s, r) = _; rw [hr]
  · rfl

/-- the item of node `n` (element `k`) carries a mark that `unfS H` clears -/
def markedS (H : Nat → Bool) (d : Defs) : AstNode → Nat → Bool
  | .instr _ (some ref), _ => (d.instrs.getD ref default).resolved
  | .data _ _ refs, k => (d.datas.getD (refs.getD k 0) default).resolved
  | .symbol _ _ (.constant _) _ (some r), _ => (d.sym r).resolved && !H r
  | _, _ => false

theorem dispatch_us (H : Nat → Bool) (st : Static) (d : Defs) (ctx : RCtx) (n : AstNode) (k : Nat)
    (hm : markedS H d n k = false) (hf : ctx.first = false) :
    dispatch st (d.unfS H) ctx n k = (dispatch st d ctx n k).map (usRes H) := by
  unfold dispatch
  split
  · rename_i level name kind ne ref
    cases kind with
    | label => exact resolveLabel_us H st d ctx ref
    | constant e =>
      refine resolveConstant_us H st d ctx ref e hf (fun hr => ?_)
      simp only [markedS, hr, Bool.true_and, Bool.not_eq_false'] at hm
      exact hm
  · exact resolveInstruction_us H st d ctx _ hm hf
  · exact resolveData_us H st d ctx _ _ _ hm hf
  · exact resolveRes_us H st d ctx _ _
  · exact resolveAlign_us H st d ctx _ _
  · exact resolveAddr_us H st d ctx _ _
  · exact resolveAssert_us H st d ctx _
  · rfl

theorem dispatch_markedS (H : Nat → Bool) (st : Static) (d : Defs) (ctx : RCtx) (n : AstNode) (k : Nat) (hm : markedS H d n k = true) :
    dispatch st d ctx n k = .ok (d, true, []) := by
  unfold markedS at hm
  split at hm
  · simp only [dispatch, resolveInstruction, hm, if_true]
  · simp only [dispatch, resolveData, hm, if_true]
  · rw [Bool.and_eq_true] at hm
    simp only [dispatch, resolveConstant, hm.1, if_true]
  · cases hm

theorem nodeItem_us (H : Nat → Bool) (st : Static) (d : Defs) (n : AstNode) (k : Nat) : nodeItem st (d.unfS H) n k = nodeItem st d n k := by
  -- of the entries that carry a mark, `nodeItem` reads a label's value and the size of an encoding
  simp only [nodeItem, unfS_instr, unfS_data, sym_unfS]
  rfl

end Casm
