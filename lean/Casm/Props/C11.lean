import Casm.Model.Format
import Casm.Proofs.FormatLemmas
/-!
# C11 — every output format carries exactly the assembled bits

Theorems about `Casm.Model.Format`.  `padded n bits` is the output zero-extended to `n`
bits; every data format prints `chunks bits k` (k = 8, 1, 4, 16), so `chunks_decode` is the
statement "decodes to exactly the assembled bit sequence padded with zero bits to the
format's granule" for all of them; the remaining theorems are about what each format adds
(line counts, addresses, record lengths, checksums).
-/
namespace Casm.C11

def padded (n : Nat) (bits : Bits) : List Bool := (List.range n).map (readBit bits)

theorem flatMap_range_mul {α} (f : Nat → α) (n k : Nat) :
    (List.range n).flatMap (fun j => (List.range k).map (fun i => f (j * k + i))) =
      (List.range (n * k)).map f := by
  induction n with
  | zero => rw [Nat.zero_mul]; rfl
  | succ n ih =>
    rw [List.range_succ, List.flatMap_append, ih, Nat.succ_mul, List.range_add, List.map_append, List.map_map,
      List.flatMap_singleton]
    rfl

/-- zero-extension really is the bits followed by zeros -/
theorem padded_eq (bits : Bits) (n : Nat) (h : bits.length ≤ n) :
    padded n bits = bits ++ List.replicate (n - bits.length) false := by
  -- the right side, read entry by entry with `false` beyond its end, is the bits read so
  have := map_getD_range (bits ++ List.replicate (n - bits.length) false) false
  simp only [getD_append_replicate, List.length_append, List.length_replicate, Nat.add_sub_cancel' h] at this
  exact this

/-- **Round trip.** Re-expanding the `k`-bit chunks a format prints gives the assembled
    bits zero-padded to a whole number of chunks — for outputs of every length, including
    empty and non-multiple ones.  Nothing is dropped, reordered or invented. -/
theorem chunks_decode (bits : Bits) (k : Nat) :
    (chunks bits k).flatMap (toBitsMSB k) = padded (numChunks bits.length k * k) bits := by
  rw [chunks, padded, List.flatMap_map, funext fun j => chunkVal_bits bits (j * k) k]
  exact flatMap_range_mul (readBit bits) _ k

/-- the padding is shorter than one chunk and covers the whole output -/
theorem numChunks_covers (len k : Nat) (hk : 0 < k) :
    len ≤ numChunks len k * k ∧ numChunks len k * k < len + k := by
  unfold numChunks
  have h1 := Nat.div_add_mod (len + k - 1) k
  have h2 := Nat.mod_lt (len + k - 1) hk
  have h3 : (len + k - 1) / k * k = k * ((len + k - 1) / k) := Nat.mul_comm _ _
  constructor <;> omega

theorem binary_rt (bits : Bits) :
    (fmtBinary bits).flatMap (toBitsMSB 8) = bits ++ List.replicate (numChunks bits.length 8 * 8 - bits.length) false := by
  unfold fmtBinary
  rw [chunks_decode, padded_eq _ _ (numChunks_covers _ 8 (by decide)).1]

theorem chunk_lt (bits : Bits) (start k : Nat) : chunkVal bits start k < 2 ^ k := by
  have := bitsVal_lt ((List.range k).map fun j => readBit bits (start + j))
  rwa [List.length_map, List.length_range] at this

theorem binary_bytes_lt (bits : Bits) : ∀ b ∈ fmtBinary bits, b < 256 := by
  intro b hb
  simp only [fmtBinary, chunks, List.mem_map] at hb
  obtain ⟨j, _, rfl⟩ := hb
  exact chunk_lt bits _ 8

/-- digit characters decode to their value (bit and hex strings, dumps, Logisim) -/
theorem digit_decode : ∀ d, d < 16 → hexVal (digitChar false d) = d := by decide +kernel

theorem str_digits (k : Nat) (bits : Bits) : fmtStr k bits = (chunks bits k).map (digitChar false) := rfl

theorem dumpLineCount_eq (len bpl : Nat) : dumpLineCount len bpl = max 1 (numChunks len (bpl * 8)) := by
  rw [dumpLineCount, numChunks, Nat.mul_comm 8 bpl]

/-- hex/bin dumps: the line count covers every output bit (no partial last line dropped)
    and there is always at least one line. -/
theorem dump_covers (len bpl : Nat) (hb : 0 < bpl) :
    len ≤ dumpLineCount len bpl * (bpl * 8) ∧ 1 ≤ dumpLineCount len bpl := by
  rw [dumpLineCount_eq]
  have h := (numChunks_covers len (bpl * 8) (by omega)).1
  exact ⟨Nat.le_trans h (Nat.mul_le_mul_right _ (Nat.le_max_right _ _)), Nat.le_max_left _ _⟩

/-- and not more lines than needed: the last line holds at least one output bit
    (or the output is empty) -/
theorem dump_tight (len bpl : Nat) (hb : 0 < bpl) (hl : 0 < len) :
    (dumpLineCount len bpl - 1) * (bpl * 8) < len := by
  rw [dumpLineCount_eq]
  have h := (numChunks_covers len (bpl * 8) (by omega)).2
  rcases Nat.lt_or_ge (numChunks len (bpl * 8)) 1 with hq | hq
  · rw [Nat.max_eq_left (by omega), Nat.sub_self, Nat.zero_mul]
    exact hl
  · rw [Nat.max_eq_right hq, Nat.sub_mul, Nat.one_mul]
    omega

theorem splitEvery_join (n : Nat) (hn : 0 < n) (fuel : Nat) (l : List Nat) (hf : l.length < fuel) :
    (splitEvery n fuel l).flatten = l := by
  fun_induction splitEvery n fuel l with
  | case1 => cases hf
  | case2 => rfl
  | case3 fuel l hl ih =>
    rw [List.flatten_cons, ih (by rw [List.length_drop]; have := List.length_pos_iff.2 hl; omega), List.take_append_drop]

theorem splitEvery_len (n : Nat) (fuel : Nat) (l : List Nat) :
    ∀ g ∈ splitEvery n fuel l, g.length ≤ n := by
  fun_induction splitEvery n fuel l with
  | case1 => nofun
  | case2 => nofun
  | case3 fuel l hl ih => exact List.forall_mem_cons.2 ⟨List.length_take_le n _, ih⟩

/-- the records of a block carry exactly the block's bytes, in order -/
theorem ihex_block_bytes (bits : Bits) (unit : Nat) (b : Block) :
    (blockRecords bits unit b).flatMap (·.bytes) = blockBytes bits b := by
  -- reading the groups one by one gives the groups, and the groups put together are the bytes
  rw [blockRecords, List.flatMap_map, List.flatMap_def, map_getD_range]
  exact splitEvery_join 32 (by decide) _ _ (Nat.lt_succ_self _)

/-- no record is longer than 32 bytes -/
theorem ihex_record_len (bits : Bits) (unit : Nat) (b : Block) :
    ∀ r ∈ blockRecords bits unit b, r.bytes.length ≤ 32 := by
  intro r hr
  unfold blockRecords at hr
  simp only [List.mem_map, List.mem_range] at hr
  obtain ⟨j, hj, rfl⟩ := hr
  simp only
  rw [getD_lt' _ _ _ hj]
  exact splitEvery_len 32 _ _ _ (List.getElem_mem hj)

theorem add_checksum (s : Nat) : (s + (256 - s % 256) % 256) % 256 = 0 := by omega

/-- every record's bytes, count, address bytes and checksum add up to 0 modulo 256 -/
theorem ihex_checksum_zero (r : IHexRecord) :
    (r.bytes.length + (r.addr / 256) % 256 + r.addr % 256 + r.bytes.foldl (· + ·) 0 + ihexChecksum r) % 256 = 0 :=
  add_checksum _

/-- the bytes of a block that starts on a byte boundary are bytes of the padded output -/
theorem ihex_aligned_bytes (bits : Bits) (b : Block) (q : Nat) (ha : b.offset = 8 * q) :
    blockBytes bits b = (List.range ((b.size + 7) / 8)).map fun j => chunkVal bits ((q + j) * 8) 8 := by
  unfold blockBytes
  apply List.map_congr_left
  intro j _
  congr 1
  rw [ha]; omega

/-! ### addresses beyond 64 KiB (finding F72, repaired) -/

/-- a reader of the file: a type-04 record sets the upper 16 address bits of the data records that follow -/
def readLines : Nat → List IHexLine → List (Nat × List Nat)
  | _, [] => []
  | _, .ext v :: ls => readLines v ls
  | u, .data a bytes :: ls => (u * 65536 + a, bytes) :: readLines u ls

/-- **every data record is read back at its full address** (32 bits, the reach of the format), with its bytes, in order:
    the extended-address records written between them are exactly the ones a reader needs -/
theorem ihex_full_addresses (rs : List IHexRecord) (u : Nat) :
    readLines u (ihexLines u rs) = rs.map fun r => (r.addr % 4294967296, r.bytes) := by
  induction rs generalizing u with
  | nil => rfl
  | cons r rs ih =>
    have e : (r.addr / 65536) % 65536 * 65536 + r.addr % 65536 = r.addr % 4294967296 := by
      rw [show 4294967296 = 65536 * 65536 from rfl, Nat.mod_mul, Nat.add_comm, Nat.mul_comm]
    rw [ihexLines, List.map_cons, ← e]
    by_cases h : (r.addr / 65536) % 65536 = u
    · subst h
      rw [if_neg (fun hne => hne rfl), List.nil_append, readLines, ih]
    · rw [if_pos h, List.singleton_append, readLines, readLines, ih]

/-- no extended-address record is written while the addresses stay below 64 KiB: small outputs are unchanged -/
theorem ihex_small_has_no_ext (rs : List IHexRecord) (h : ∀ r ∈ rs, r.addr < 65536) :
    ihexLines 0 rs = rs.map fun r => .data r.addr r.bytes := by
  induction rs with
  | nil => rfl
  | cons r rs ih =>
    have hr := h r List.mem_cons_self
    rw [ihexLines, Nat.div_eq_of_lt hr, Nat.zero_mod, Nat.mod_eq_of_lt hr, if_neg (fun hne => hne rfl), List.nil_append,
      List.map_cons, ih fun x hx => h x (List.mem_cons_of_mem _ hx)]

/-- the checksum of an extended-address record: its six bytes and the checksum add up to 0 modulo 256 -/
theorem ihex_ext_checksum (u : Nat) :
    (2 + 4 + (u / 256) % 256 + u % 256 + (256 - (2 + 4 + (u / 256) % 256 + u % 256) % 256) % 256) % 256 = 0 :=
  add_checksum _

example : ihexLines 0 [⟨0, [1]⟩, ⟨0x10000, [2]⟩, ⟨0x10020, [3]⟩, ⟨0x20, [4]⟩] =
    [.data 0 [1], .ext 1, .data 0 [2], .data 0x20 [3], .ext 0, .data 0x20 [4]] := by decide +kernel

example : fmtStr 4 [true, false, true, false, true, true] = ['a', 'c'] := by decide +kernel
example : (chunks [true, false, true, false, true, true] 4).flatMap (toBitsMSB 4) =
    [true, false, true, false, true, true, false, false] := by decide +kernel

end Casm.C11
