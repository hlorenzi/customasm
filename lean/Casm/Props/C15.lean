import Casm.Proofs.FrontPhases
import Casm.Proofs.ResolveLemmas
/-!
# C15 — symbols resolve lexically and independently of declaration order

About `Casm.SymMgr` (model of `util::SymbolManager`) and its use by `evalVariable`.

* `lookup_determined_by_level_prefix` — what a reference denotes depends on the context at the
  point of use only through its first `level` components (the enclosing declarations down to
  the dot-level), and on the path.
* `lookup_skipping_level_is_unknown`, `declare_skipping_level_is_error`,
  `declare_duplicate_is_error` — the three error clauses.
* `declare_appends` — a declaration is appended (fresh index) and never renumbers others.
* `reference_sees_whole_table` — evaluation of a reference consults the table of *all*
  declarations (built before any evaluation), so use-before-declaration and use-after
  resolve alike.

* `reference_denotes_path` — **the scope rule**: in every table the assembler can build
  (`Built`: from the empty table by successful declarations, each made in the root context or in
  the context left by an earlier declaration), a reference with `level` dots and path `path`,
  used where the context is `ctx` (the root or the path of the last declaration), denotes
  exactly the declaration whose full dotted path is the first `level` components of `ctx`
  followed by `path` — and nothing if no declaration has that path (`reference_unknown`).
  `declaration_gets_path` — a declaration with `level` dots and name `n` made in context `ctx`
  gets the path `ctx.take level ++ [n]`; `paths_are_unique`.
  Together: a bare name is global, one dot = child of the enclosing depth-0 declaration, `k`
  dots = child of the enclosing declaration `k-1` levels deep, dotted paths descend from there.
  `assembler_table_is_built` / `reference_denotes_path_in_assembler` — the table the front end
  hands to the resolver *is* such a table (proved through the parser-to-resolver pipeline:
  `collect` declares in the root context or in the context of the last symbol met, functions in
  the root), so the scope rule holds of every reference the resolver evaluates.

Finding F16: the context follows every symbol declaration, not only labels (so "enclosing
label" reads "enclosing symbol"); the theorems are about the context as the code maintains it.
-/
namespace Casm.C15

/-- **determined by dot-level and the enclosing declarations**: two contexts that agree on their
    first `level` components resolve every reference of that level alike -/
theorem lookup_determined_by_level_prefix (m : SymMgr) (ctx ctx' : List String) (level : Nat) (path : List String)
    (h : ctx.take level = ctx'.take level) (hl : level ≤ ctx.length) (hl' : level ≤ ctx'.length) :
    m.tryGetByName ctx level path = m.tryGetByName ctx' level path := by
  rw [SymMgr.tryGetByName, SymMgr.tryGetByName, if_neg (Nat.not_lt.2 hl), if_neg (Nat.not_lt.2 hl'), h]

/-- a reference with more dots than there are enclosing declarations denotes nothing -/
theorem lookup_skipping_level_is_unknown (m : SymMgr) (ctx : List String) (level : Nat) (path : List String)
    (h : ctx.length < level) :
    m.tryGetByName ctx level path = none ∧
    m.getByName ctx level path = .error s!"unknown {m.reportAs} `{displayName level path}`" := by
  have h1 : m.tryGetByName ctx level path = none := by rw [SymMgr.tryGetByName, if_pos h]
  exact ⟨h1, by rw [SymMgr.getByName, h1]⟩

theorem declare_skipping_level_is_error (m : SymMgr) (ctx : List String) (name : String) (level : Nat) (kind : DeclKind)
    (h : ctx.length < level) :
    m.declare ctx name level kind = .error "symbol declaration skips a nesting level" := by
  rw [SymMgr.declare, if_pos h]

/-- declaring a name twice under the same parent is an error -/
theorem declare_duplicate_is_error (m : SymMgr) (ctx : List String) (name : String) (level : Nat) (kind : DeclKind)
    (hl : level ≤ ctx.length)
    (h : (assocGet (m.childrenOf ((m.getParent none (ctx.take level)).getD none)) name).isSome = true) :
    m.declare ctx name level kind = .error s!"duplicate {m.reportAs} `{name}`" := by
  rw [SymMgr.declare, if_neg (Nat.not_lt.2 hl)]
  exact if_pos h

/-- a successful declaration gets the next free index and leaves all indices valid -/
theorem declare_appends (m m' : SymMgr) (ctx : List String) (name : String) (level : Nat) (kind : DeclKind) (idx : Nat)
    (h : m.declare ctx name level kind = .ok (idx, m')) :
    idx = m.decls.length ∧ m'.decls.length = m.decls.length + 1 := by
  obtain ⟨_, hidx, ex⟩ := declare_spec h
  exact ⟨hidx, ex.len⟩

/-- `evalVariable` sees the resolver context through `symCtx`, `canGuess` and, for `$`/`pc` alone, the address -/
theorem evalVariable_congr_ctx (st : Static) (defs : Defs) (ctx ctx' : RCtx) (level : Nat) (path : List String)
    (hsym : ctx.symCtx = ctx'.symCtx) (hguess : ctx.canGuess = ctx'.canGuess)
    (haddr : level = 0 → (path = ["$"] ∨ path = ["pc"]) →
      evalAddress defs ctx ctx.canGuess = evalAddress defs ctx' ctx'.canGuess) :
    evalVariable st defs ctx level path = evalVariable st defs ctx' level path := by
  rcases evalVariable_cases level path with ⟨n, rfl, rfl, hn, e⟩ | ⟨n, -, -, -, e⟩ | e
  · rw [e, e, haddr rfl (by rcases hn with rfl | rfl <;> simp)]
  · rw [e, e]
  · simp only [e, symbolValue, hsym, hguess]

/-- **use before declaration = use after**: evaluating a reference consults the complete
    declaration table of the assembly (`st.decls.symbols`), never a per-position prefix of it;
    the position enters only through the context `ctx.symCtx` -/
theorem reference_sees_whole_table (st : Static) (defs : Defs) (ctx ctx' : RCtx) (level : Nat) (path : List String)
    (hsym : ctx.symCtx = ctx'.symCtx) (hguess : ctx.canGuess = ctx'.canGuess)
    (hnotpc : ¬ (level = 0 ∧ (path.head? = some "$" ∨ path.head? = some "pc"))) :
    evalVariable st defs ctx level path = evalVariable st defs ctx' level path :=
  evalVariable_congr_ctx st defs ctx ctx' level path hsym hguess fun h0 hp =>
    absurd ⟨h0, by rcases hp with rfl | rfl <;> simp⟩ hnotpc

/-! ## the scope rule -/

/-- **a reference denotes the declaration whose dotted path is the enclosing path (down to the
    dot-level) followed by the reference's path** -/
theorem reference_denotes_path (m : SymMgr) (hb : Built m) (ctx : List String) (level : Nat) (path : List String) (r : Nat)
    (hctx : ctx = [] ∨ ∃ i, i < m.decls.length ∧ (m.decls.getD i default).ctx = ctx)
    (hl : level ≤ ctx.length) (hp : path ≠ []) :
    m.tryGetByName ctx level path = some r ↔
      r < m.decls.length ∧ (m.decls.getD r default).ctx = ctx.take level ++ path :=
  lookup_refines_scope m (built_wf hb) ctx level path r hl (resolves_take m (built_wf hb) ctx hctx level) hp

/-- …and nothing when no declaration has that path -/
theorem reference_unknown (m : SymMgr) (hb : Built m) (ctx : List String) (level : Nat) (path : List String)
    (hctx : ctx = [] ∨ ∃ i, i < m.decls.length ∧ (m.decls.getD i default).ctx = ctx)
    (hl : level ≤ ctx.length) (hp : path ≠ [])
    (hno : ∀ r, r < m.decls.length → (m.decls.getD r default).ctx ≠ ctx.take level ++ path) :
    m.tryGetByName ctx level path = none :=
  lookup_unknown m (built_wf hb) ctx level path hl (resolves_take m (built_wf hb) ctx hctx level) hp hno

/-- a declaration gets the enclosing path (down to its dot-level) followed by its name, and no
    earlier declaration changes its path -/
theorem declaration_gets_path (m m' : SymMgr) (hb : Built m) (ctx : List String) (name : String) (level : Nat) (kind : DeclKind) (idx : Nat)
    (hctx : ctx = [] ∨ ∃ i, i < m.decls.length ∧ (m.decls.getD i default).ctx = ctx)
    (h : m.declare ctx name level kind = .ok (idx, m')) :
    Built m' ∧ (m'.decls.getD idx default).ctx = ctx.take level ++ [name] ∧
      ∀ i, i < m.decls.length → (m'.decls.getD i default).ctx = (m.decls.getD i default).ctx := by
  obtain ⟨_, _, _, h4, h5⟩ := declare_preserves m m' (built_wf hb) ctx name level kind idx (resolves_take m (built_wf hb) ctx hctx level) h
  exact ⟨Built.declare hb hctx h, h4, h5⟩

/-- one path, one declaration -/
theorem paths_are_unique (m : SymMgr) (hb : Built m) (i j : Nat) (hi : i < m.decls.length) (hj : j < m.decls.length)
    (h : (m.decls.getD i default).ctx = (m.decls.getD j default).ctx) : i = j :=
  path_unique m (built_wf hb) i j hi hj h

/-- the order of two declarations in different scopes does not matter for what a path denotes:
    a reference found before a later declaration is still found, and denotes the same declaration -/
theorem later_declarations_do_not_rebind (m m' : SymMgr) (hb : Built m) (ctx name : _) (level : Nat) (kind : DeclKind) (idx : Nat)
    (hctx : ctx = [] ∨ ∃ i, i < m.decls.length ∧ (m.decls.getD i default).ctx = ctx)
    (h : m.declare ctx name level kind = .ok (idx, m'))
    (uctx : List String) (ulevel : Nat) (upath : List String) (r : Nat)
    (huctx : uctx = [] ∨ ∃ i, i < m.decls.length ∧ (m.decls.getD i default).ctx = uctx)
    (hul : ulevel ≤ uctx.length) (hup : upath ≠ [])
    (hfound : m.tryGetByName uctx ulevel upath = some r) : m'.tryGetByName uctx ulevel upath = some r :=
  declare_keeps_lookup (built_wf hb) (resolves_take m (built_wf hb) ctx hctx level) h
    (resolves_take m (built_wf hb) uctx huctx ulevel) hul hup hfound

/-- **the table every successful front end hands to the resolver is a `Built` table** -/
theorem assembler_table_is_built (opts : Opts) (fs : SrcFiles) (roots : List (List Char)) (st : Static) (nodes : List AstNode) (defs : Defs)
    (h : frontEnd opts fs roots = .ok (st, nodes, defs)) : Built st.decls.symbols :=
  frontEnd_built opts fs roots st nodes defs h

/-- **the scope rule, for the assembler's own table** -/
theorem reference_denotes_path_in_assembler (opts : Opts) (fs : SrcFiles) (roots : List (List Char)) (st : Static) (nodes : List AstNode)
    (defs : Defs) (h : frontEnd opts fs roots = .ok (st, nodes, defs))
    (ctx : List String) (level : Nat) (path : List String) (r : Nat)
    (hctx : ctx = [] ∨ ∃ i, i < st.decls.symbols.decls.length ∧ (st.decls.symbols.decls.getD i default).ctx = ctx)
    (hl : level ≤ ctx.length) (hp : path ≠ []) :
    st.decls.symbols.tryGetByName ctx level path = some r ↔
      r < st.decls.symbols.decls.length ∧ (st.decls.symbols.decls.getD r default).ctx = ctx.take level ++ path :=
  reference_denotes_path _ (assembler_table_is_built opts fs roots st nodes defs h) ctx level path r hctx hl hp

/-! non-vacuity: a small table -/
def demo : SymMgr :=
  match (SymMgr.new "symbol").declare [] "g" 0 .label with
  | .ok (_, m) =>
    match m.declare ["g"] "x" 1 .label with
    | .ok (_, m) => m
    | .error _ => m
  | .error _ => SymMgr.new "symbol"

example : demo.tryGetByName ["g"] 1 ["x"] = some 1 := by decide +kernel
example : demo.tryGetByName ["g", "x"] 1 ["x"] = some 1 := by decide +kernel
example : demo.tryGetByName [] 0 ["g", "x"] = some 1 := by decide +kernel
example : demo.tryGetByName [] 1 ["x"] = none := by decide +kernel

/-- **a dotted path descends from the declaration its first component denotes, also when that component is
    named like a built-in** (`pc.x`, `incbin.x`; finding F45, repaired: the built-in test looked at the first
    component whatever the length of the path) -/
theorem dotted_path_is_never_a_builtin (st : Static) (defs : Defs) (ctx : RCtx) (n m : String) (rest : List String) :
    evalVariable st defs ctx 0 (n :: m :: rest) =
      match st.decls.symbols.getByName ctx.symCtx 0 (n :: m :: rest) with
      | .error e => .error e
      | .ok r =>
        match (defs.sym r).value with
        | .unknown => if !ctx.canGuess then .error s!"unresolved symbol `{displayName 0 (n :: m :: rest)}`" else .ok (defs.sym r).value
        | _ => .ok (defs.sym r).value := by
  unfold evalVariable
  rfl

end Casm.C15
