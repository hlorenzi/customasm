import Casm.Model.Driver
/-!
# C18 — the command line does what the usage text says

The format table (`Gen.formatTable`), the usage text (`Gen.usageFormats`,
`Gen.usageSameAs`) and the option table are re-extracted from `driver.rs` and
`usage_help.md` on every run; the theorems below are therefore re-checked against what
the source says now.

* what the usage text lists: `documented_accepted`, `documented_defaults`, `same_as_holds`, and `code_names_vs_usage`
  for the two names the code accepts beyond it (F27);
* what is rejected: `unknown_format_rejected`, `leftover_param_rejected`, `duplicate_param_rejected`,
  `invalid_value_rejected`, `malformed_value_rejected`;
* output files: `derived_not_an_input`, `finish_names`, `groups_independent`, `one_file_per_group`; and
  `parse_error_before_assembling`.
-/
namespace Casm.C18

def isOkE {ε α} : Except ε α → Bool
  | .ok _ => true
  | .error _ => false

/-- the format a documented row should select: its variant with the documented defaults -/
def rowOk (row : String × List (String × Nat)) : Bool :=
  match parseOutputFormat row.1.toList, Gen.formatTable.find? (·.1 == row.1) with
  | .ok f, some (_, variant, fields) =>
    f.variant == variant &&
    -- every documented parameter exists in the code with the documented default
    row.2.all (fun (p, d) => fields.any (fun fs => fs.param == some p && fs.default == d))
  | _, _ => false

/-- **Every format name listed in the usage text is accepted** and selects that format;
    every documented parameter exists with the documented default. -/
theorem documented_accepted : Gen.usageFormats.all rowOk = true := by decide +kernel

/-- giving a documented parameter its documented default value is the same as omitting it -/
def rowDefaultsOk (row : String × List (String × Nat)) : Bool :=
  row.2.all fun (p, d) =>
    match parseOutputFormat (row.1 ++ "," ++ p ++ ":" ++ toString d).toList, parseOutputFormat row.1.toList with
    | .ok a, .ok b => a == b
    | _, _ => false

theorem documented_defaults : Gen.usageFormats.all rowDefaultsOk = true := by decide +kernel

/-- "Same as" lines of the usage text hold -/
theorem same_as_holds : Gen.usageSameAs.all (fun (a, b) =>
    match parseOutputFormat a.toList, parseOutputFormat b.toList with
    | .ok x, .ok y => x == y
    | _, _ => false) = true := by decide +kernel

/-- the documented names, and the two undocumented aliases the code also accepts (F27) -/
theorem code_names_vs_usage :
    (Gen.formatTable.map (·.1)).filter (fun n => !(Gen.usageFormats.map (·.1)).contains n) = ["annotatedhex", "c"] := by
  decide +kernel

/-- **An unknown format name is rejected** (whatever well-formed parameters follow). -/
theorem unknown_format_rejected (idc : List Char) (params : List (List Char)) (ps : Params)
    (hid : Gen.formatTable.find? (·.1 == String.ofList idc) = none)
    (hsplit : splitOnChar ',' (joinWith [','] (idc :: params)) = idc :: params)
    (hp : collectParams (String.ofList idc) params [] = .ok ps) :
    parseOutputFormat (joinWith [','] (idc :: params)) = .error s!"unknown format `{String.ofList idc}`" := by
  unfold parseOutputFormat
  rw [hsplit]
  simp only [hp, hid]

/-- **An unknown parameter is rejected**: if, after the fields of the format took theirs, a
    parameter key is left over, the result is an error. -/
theorem leftover_param_rejected (id : String) (fields : List Gen.FieldSpec) (ps left : Params)
    (fs : List (String × Nat)) (paramStrs : List (List Char)) (p : List Char)
    (_hres : resolveFields id fields ps [] = .ok (fs, left))
    (hfind : paramStrs.find? (fun p => (left.get (String.ofList ((splitOnChar ':' p).headD []))).isSome) = some p) :
    (match paramStrs.find? (fun p => (left.get (String.ofList ((splitOnChar ':' p).headD []))).isSome) with
     | some p => (Except.error s!"unknown format argument `{id},{String.ofList ((splitOnChar ':' p).headD [])}`" : Except String OutFmt)
     | none => .ok ⟨"", fs⟩) =
    .error s!"unknown format argument `{id},{String.ofList ((splitOnChar ':' p).headD [])}`" := by
  rw [hfind]

/-- **a parameter given twice is rejected** (finding F74, repaired): once a key is in the map, another part with that key
    is an invalid format argument - so no value is ever dropped unchecked -/
theorem duplicate_param_rejected (id : String) (p k v : List Char) (rest : List (List Char)) (acc : Params)
    (hs : splitOnChar ':' p = [k, v]) (hd : (acc.get (String.ofList k)).isSome = true) :
    collectParams id (p :: rest) acc = .error s!"invalid format argument `{id},{String.ofList p}`" := by
  rw [collectParams, hs]
  simp only [hd, if_true]

theorem duplicate_bare_param_rejected (id : String) (p k : List Char) (rest : List (List Char)) (acc : Params)
    (hs : splitOnChar ':' p = [k]) (hd : (acc.get (String.ofList k)).isSome = true) :
    collectParams id (p :: rest) acc = .error s!"invalid format argument `{id},{String.ofList p}`" := by
  rw [collectParams, hs]
  simp only [hd, if_true]

/-- a key that is new to the map is inserted and stays retrievable -/
theorem params_get_insert (ps : Params) (k v : String) : (ps.insert k v).get k = some v := by
  simp [Params.insert, Params.get]

/-- a value that fails its validator is rejected -/
theorem invalid_value_rejected (id : String) (f : Gen.FieldSpec) (rest : List Gen.FieldSpec) (ps : Params)
    (acc : List (String × Nat)) (pname value : String) (v : Nat)
    (hp : f.param = some pname) (hget : ps.get pname = some value)
    (hparse : parseUsize value.toList = some v) (hbad : f.validator.check v = false) :
    resolveFields id (f :: rest) ps acc = .error s!"invalid format argument `{id},{pname}:{value}`" := by
  simp [resolveFields, hp, hget, hparse, hbad]

theorem malformed_value_rejected (id : String) (f : Gen.FieldSpec) (rest : List Gen.FieldSpec) (ps : Params)
    (acc : List (String × Nat)) (pname value : String)
    (hp : f.param = some pname) (hget : ps.get pname = some value)
    (hparse : parseUsize value.toList = none) :
    resolveFields id (f :: rest) ps acc = .error s!"invalid format argument `{id},{pname}:{value}`" := by
  simp [resolveFields, hp, hget, hparse]

/-- the documented value set of `tcgame,base` is what the code validates -/
theorem tcgame_base_set :
    ((Gen.formatTable.find? (·.1 == "tcgame")).map fun r => (r.2.2.find? (·.field == "base")).map (·.validator)) =
      some (some (.oneOf [2, 16])) := by decide +kernel

/-! ## output files -/

/-- **A derived output name never equals the name of an input file** - the first, from which it is derived, or any other
    (finding F71, repaired). -/
theorem derived_not_an_input (f : OutFmt) (inputs : List String) (out : String) (h : deriveOutputFilename f inputs = .ok out) :
    out ∉ inputs := by
  rw [deriveOutputFilename] at h
  split at h
  · cases h
  next hne =>
    obtain rfl := Except.ok.inj h
    exact fun hin => hne (List.contains_iff_mem.2 hin)

theorem derived_ne_input (f : OutFmt) (inputs : List String) (out : String) (h : deriveOutputFilename f inputs = .ok out)
    (hi : inputs ≠ []) : out ≠ inputs.getD 0 "" := by
  intro he
  cases inputs with
  | nil => exact hi rfl
  | cons a t => exact derived_not_an_input f (a :: t) out h (he ▸ List.mem_cons_self)

/-- **when only the help or version text is asked for, no output name is derived, so none can fail to be** (finding F78,
    repaired): the groups are finished without an error -/
theorem info_only_derives_nothing (inputs : List String) (gs acc : List OutGroup) :
    ∃ r, finishGroups inputs true gs acc = .ok r := by
  fun_induction finishGroups inputs true gs acc with
  | case1 acc => exact ⟨acc, rfl⟩
  | case2 g rest acc fmt hc e he =>  -- a name is derived only when `infoOnly` is false
    simp only [Bool.not_true, Bool.and_false, Bool.false_eq_true] at hc
  | case3 g rest acc fmt hc name hn ih => exact ih
  | case4 g rest acc fmt hc ih => exact ih

/-- extensions: `bin` for raw binary, `mlb` for the Mesen format, `txt` for everything else -/
theorem extension_table :
    Gen.extensions = [("Binary", "bin"), ("SymbolsMesenMlb", "mlb")] ∧ Gen.defaultExtension = "txt" := by decide +kernel

/-- default format of a group without `-f`: annotated (base 16, group 2) when printing, binary otherwise -/
theorem default_formats :
    defaultFormat true = ⟨"Annotated", [("base", 16), ("group", 2)]⟩ ∧ defaultFormat false = ⟨"Binary", []⟩ := by decide +kernel

/-- what one group contributes, independent of all other groups -/
def writeOf (bits : Bits) (spans : List Span) (g : OutGroup) : List (String × Option (List Nat)) :=
  match g.format with
  | none => []
  | some f => if g.printout then [] else match g.outFile with
    | some name => [(name, formatOutputBytes f bits spans)]
    | none => []

def printOf (g : OutGroup) : Nat :=
  match g.format with
  | none => 0
  | some _ => if g.printout then 1 else 0

/-- **Groups do not affect each other; each writes exactly one file or prints.**  Without
    write faults, the files written are the concatenation of what each group contributes on
    its own, in order. -/
theorem groups_independent (bits : Bits) (spans : List Span) (gs : List OutGroup) (o : RunOutcome) :
    runGroups bits spans [] gs o =
      { o with writes := o.writes ++ gs.flatMap (writeOf bits spans),
               prints := o.prints + (gs.map printOf).sum } := by
  fun_induction runGroups bits spans [] gs o with
  | case1 o => simp
  | case2 g rest o hf ih => rw [ih]; simp [writeOf, printOf, hf]
  | case3 g rest o f hf hp ih => rw [ih]; simp [writeOf, printOf, hf, hp, Nat.add_assoc]
  | case4 g rest o f hf hp name ho hu => cases hu  -- no file is unwritable
  | case5 g rest o f hf data hp name ho hu ih => rw [ih]; simp [writeOf, printOf, hf, hp, ho, data]
  | case6 g rest o f hf hp ho ih => rw [ih]; simp [writeOf, printOf, hf, hp, ho]

/-- a non-printing group with a file name writes exactly one file -/
theorem one_file_per_group (bits : Bits) (spans : List Span) (g : OutGroup) (f : OutFmt) (name : String)
    (hf : g.format = some f) (hp : g.printout = false) (ho : g.outFile = some name) :
    (writeOf bits spans g).length = 1 ∧ (writeOf bits spans g).map (·.1) = [name] := by
  simp [writeOf, hf, hp, ho]

/-- after `finishGroups` every non-printing group has a file name whenever there is an input (and an assembly was asked for) -/
theorem finish_names (inputs : List String) (gs acc out : List OutGroup) (hi : 1 ≤ inputs.length)
    (hacc : ∀ g ∈ acc, g.printout = false → g.outFile.isSome = true)
    (h : finishGroups inputs false gs acc = .ok out) : ∀ g ∈ out, g.printout = false → g.outFile.isSome = true := by
  -- the accumulator grows by one group, which has a name or prints
  have snoc : ∀ (acc : List OutGroup) (g' : OutGroup), (∀ g ∈ acc, g.printout = false → g.outFile.isSome = true) →
      (g'.printout = false → g'.outFile.isSome = true) → ∀ x ∈ acc ++ [g'], x.printout = false → x.outFile.isSome = true :=
    fun acc g' ha hg => List.forall_mem_append.2 ⟨ha, List.forall_mem_singleton.2 hg⟩
  fun_induction finishGroups inputs false gs acc with
  | case1 acc => cases h; exact hacc
  | case2 g rest acc fmt hc e he => cases h
  | case3 g rest acc fmt hc name hn ih => exact ih (snoc _ _ hacc fun _ => rfl) h
  | case4 g rest acc fmt hc ih =>
    refine ih (snoc _ _ hacc fun (hp : g.printout = false) => ?_) h
    show g.outFile.isSome = true
    cases ho : g.outFile with
    | some _ => rfl
    | none => exact absurd hi (by simpa [hp, ho] using hc)

/-- an invalid command line fails before the assembler is ever called -/
theorem parse_error_before_assembling (args : List String) (asm : Command → AsmResult) (unw : List String) (e : String)
    (h : parseCommand args = .error e) : drive args asm unw = ⟨false, [e], 0, [], 0⟩ := by
  simp [drive, h]

example : isOkE (parseOutputFormat "annotated,base:8,group:3".toList) = true := by decide +kernel
example : isOkE (parseOutputFormat "annotated,base:3".toList) = false := by decide +kernel
example : isOkE (parseOutputFormat "tcgame,base:8".toList) = false := by decide +kernel

end Casm.C18
