import Casm.Proofs.IterModel
import Casm.Proofs.AssembleLemmas
import Casm.Proofs.BudgetMono
import Casm.Proofs.KindInv
import Casm.Proofs.BudgetPinned
import Casm.Proofs.FrontFacts
import Casm.Proofs.FrontInv
/-!
# C09 — the iteration budget decides whether a program assembles, never to what

* `iters_le_budget` — the pass count reported by a successful assembly never exceeds the
  budget (unconditional, about `Casm.assemble`).
* `budget_monotone` — **for the model's `resolve_iteratively` itself**: if the iteration succeeds
  with budget `n ≥ 2` it succeeds with every budget `m ≥ n` with the identical final state (hence
  identical bits, spans and symbols, which are read from that state); `lower_budget_same_or_error_model`
  — lowering the budget (down to 2) yields an error or the same state.  The proof: both budgets
  run the same passes with the same flags up to pass `n − 1`; the strict pass `n` of the small
  budget, being stable, is the identity (`Casm.C02.stable_nonfirst_pass_is_identity`), so the
  state is a fixed point; the larger budget runs the *guessing* pass there, which computes the
  same state (`guessing_agrees_with_strict`, resting on `evaluation_is_monotone`: guessing only
  replaces errors by `Unknown`, strict-only checks only add errors); from a fixed point every
  further pass stays there until the loop ends or the confirming pass accepts.
  `budget_monotone_after_front_end` is the same for every node list the front end produces, with
  no well-formedness hypothesis (`Casm.frontEnd_noClash`), and `budget_monotone_from_every_budget` includes the
  budget of one pass.  What is held fixed: the *inner* budget of `asm` blocks — the same `--iters` option, read
  from the static part `st` — is held fixed while the outer budget varies; the joint variation is covered by the
  budget sweep.
* `budget_monotone_of_laws` — the same statement for the generic loop skeleton over any pass
  obeying four budget-independent laws (it documents what the skeleton needs).
* `messages_are_the_confirming_pass's` — with a budget of at least two the messages of a successful iteration
  are those of the strict pass on the final state: a pass that is not the last reports nothing.
* `budget_monotone_end_to_end_with_pinned_inner_budget` — about `Casm.assemble`: with the budget of `asm`-block
  loops pinned (`innerIter = some k`; the code takes it from `--iters`, finding F38) a program that assembles
  under a budget of at least one pass assembles under every larger one to the same bits, spans and symbols.
-/
namespace Casm.C09

theorem iterations_le_budget (st : Static) (nodes : List AstNode) (max : Nat) (d0 : Defs) (k : Nat) (d : Defs) (rep : List String)
    (h : resolveIterativelyN st nodes max d0 = .ok (k, d, rep)) : k ≤ max :=
  Iter.iters_le_budget (absPass st nodes) max d0 k d (resolveIterativelyN_sim st nodes max d0 k d rep h)

/-- **C09 (pass count).** A successful assembly reports at most `--iters` passes. -/
theorem iters_le_budget (opts : Opts) (fs : SrcFiles) (roots : List (List Char)) (res : AsmOk)
    (h : assemble opts fs roots = .ok res) : res.iters ≤ opts.maxIter := by
  obtain ⟨st, nodes, defs0, iters, d, bst, hf, hr, _, _, _, rfl⟩ := assemble_ok h
  have hk := iterations_le_budget st nodes _ defs0 iters d [] hr
  rwa [(frontEnd_opts opts fs roots st nodes defs0 hf).1] at hk

/-- **C09 (monotonicity), for the model's loop.**  Success with budget `n ≥ 2` implies success
    with every larger budget with the identical final state. -/
theorem budget_monotone (st : Static) (nodes : List AstNode) (hwf : NoClash nodes) (n m : Nat) (hn : 2 ≤ n) (hnm : n ≤ m)
    (d0 : Defs) (k : Nat) (d : Defs) (rep : List String) (h : resolveIterativelyN st nodes n d0 = .ok (k, d, rep)) :
    ∃ k' rep', resolveIterativelyN st nodes m d0 = .ok (k', d, rep') :=
  budget_monotone_model st nodes hwf n m hn hnm d0 k d rep h

/-- **C09 (monotonicity) for every program the front end accepts**: no hypothesis on the nodes -/
theorem budget_monotone_after_front_end (opts : Opts) (fs : SrcFiles) (roots : List (List Char)) (st : Static) (nodes : List AstNode)
    (defs0 : Defs) (hf : frontEnd opts fs roots = .ok (st, nodes, defs0)) (n m : Nat) (hn : 2 ≤ n) (hnm : n ≤ m)
    (k : Nat) (d : Defs) (rep : List String) (h : resolveIterativelyN st nodes n defs0 = .ok (k, d, rep)) :
    ∃ k' rep', resolveIterativelyN st nodes m defs0 = .ok (k', d, rep') :=
  budget_monotone st nodes (frontEnd_noClash opts fs roots st nodes defs0 hf) n m hn hnm defs0 k d rep h

/-- **C09 (monotonicity) from every budget of at least one pass**, for every program the front end accepts.
    With a budget of one pass the single pass is first, strict and stable; its result is a fixed point of
    the later strict pass (`resolveIterativelyN_fixed_point_one` in `Corner`), the guessing first pass of a
    larger budget computes the same state (`resolveOnce_guessF`), and the iteration stays there. -/
theorem budget_monotone_from_every_budget (opts : Opts) (fs : SrcFiles) (roots : List (List Char)) (st : Static) (nodes : List AstNode)
    (defs0 : Defs) (hf : frontEnd opts fs roots = .ok (st, nodes, defs0)) (n m : Nat) (hn : 1 ≤ n) (hnm : n ≤ m)
    (k : Nat) (d : Defs) (rep : List String) (h : resolveIterativelyN st nodes n defs0 = .ok (k, d, rep)) :
    ∃ k' rep', resolveIterativelyN st nodes m defs0 = .ok (k', d, rep') :=
  (budget_monotone_any st nodes (frontEnd_noClash opts fs roots st nodes defs0 hf) (frontEnd_uniq opts fs roots st nodes defs0 hf)
    defs0 (frontEnd_nodesOK opts fs roots st nodes defs0 hf) n m hn hnm k d rep h).imp fun _ h' => ⟨rep, h'⟩

/-- **the messages of a successful iteration are those of its confirming pass** (budget at least two):
    passes that are not the last report nothing -/
theorem messages_are_the_confirming_pass's (st : Static) (nodes : List AstNode) (max : Nat) (hmax : 2 ≤ max) (hwf : NoClash nodes)
    (d0 : Defs) (k : Nat) (d : Defs) (rep : List String) (h : resolveIterativelyN st nodes max d0 = .ok (k, d, rep)) :
    resolveOnce st nodes false true d = .ok (d, true, rep) :=
  resolveIterativelyN_rep st nodes max hmax hwf d0 k d rep h

/-- **C09, end to end, with the budget of `asm`-block loops pinned**: a program that assembles under a
    budget of at least one pass assembles under every larger budget to the same bits, spans and symbols.
    The hypothesis `innerIter = some k` is exactly what the code lacks (finding F38: `eval_asm` runs its
    own loop under `max_iterations`); the model with `innerIter = none` reproduces the code. -/
theorem budget_monotone_end_to_end_with_pinned_inner_budget (opts : Opts) (k : Nat) (hk : opts.innerIter = some k)
    (fs : SrcFiles) (roots : List (List Char)) (n m : Nat) (hn : 1 ≤ n) (hnm : n ≤ m) (out : AsmOk)
    (h : assemble (opts.withMax n) fs roots = .ok out) :
    ∃ out', assemble (opts.withMax m) fs roots = .ok out' ∧ out'.core = out.core :=
  assemble_budget_monotone_pinned opts k hk fs roots n m hn hnm out h

/-- lowering the budget can only turn success into an error, never into a different state -/
theorem lower_budget_same_or_error_model (st : Static) (nodes : List AstNode) (hwf : NoClash nodes) (n m : Nat) (hn : 2 ≤ n) (hnm : n ≤ m)
    (d0 : Defs) (k k' : Nat) (d d' : Defs) (rep rep' : List String)
    (h : resolveIterativelyN st nodes n d0 = .ok (k, d, rep))
    (h' : resolveIterativelyN st nodes m d0 = .ok (k', d', rep')) : d' = d := by
  obtain ⟨k2, rep2, h2⟩ := budget_monotone st nodes hwf n m hn hnm d0 k d rep h
  exact congrArg (·.2.1) (Except.ok.inj (h'.symm.trans h2))

/-- **where the strict pass is stable, the guessing pass computes the same state** -/
theorem guessing_agrees_with_strict (st : Static) (nodes : List AstNode) (d d' : Defs) (rep : List String)
    (h : resolveOnce st nodes false true d = .ok (d', true, rep)) :
    ∃ b rep', resolveOnce st nodes false false d = .ok (d', b, rep') :=
  resolveOnce_guess st nodes d d' rep h

/-- **evaluation is monotone in its environment**: if every answer of one environment is also
    the answer of another, every value computed in the first is computed in the second -/
theorem evaluation_is_monotone (env1 env2 : EvalEnv) (le : EnvLe env1 env2) (c : ECtx) (e : Expr) (r : Value × ECtx)
    (h : eval env1 c e = .ok r) : eval env2 c e = .ok r :=
  eval_mono env1 env2 le c e r h

/-- the resolver's environment with guessing forbidden is below the one with guessing allowed -/
theorem strict_env_below_guessing_env (st : Static) (defs : Defs) (fuel : Nat) (c : RCtx) :
    EnvLe (mkEnv st defs fuel c) (mkEnv st defs fuel (guessOf c)) :=
  mkEnv_le st defs fuel c

/-- **C09 (monotonicity of the loop skeleton under pass laws)** -/
theorem budget_monotone_of_laws (st : Static) (nodes : List AstNode) (L : Iter.Laws (absPass st nodes))
    (n m : Nat) (hn : 1 ≤ n) (hnm : n ≤ m) (d0 : Defs) (k : Nat) (d : Defs) (rep : List String)
    (h : resolveIterativelyN st nodes n d0 = .ok (k, d, rep)) :
    ∃ k' rep', resolveIterativelyN st nodes m d0 = .ok (k', d, rep') :=
  budget_monotone_of_iterate h (Iter.budget_monotone (absPass st nodes) L n m hn hnm d0 k d)

/-- lowering the budget can only turn success into an error: whenever both budgets succeed
    (under the laws) the final states are identical -/
theorem lower_budget_same_or_error (st : Static) (nodes : List AstNode) (L : Iter.Laws (absPass st nodes))
    (n m : Nat) (hn : 1 ≤ n) (hnm : n ≤ m) (d0 : Defs) (k k' : Nat) (d d' : Defs) (rep rep' : List String)
    (h : resolveIterativelyN st nodes n d0 = .ok (k, d, rep))
    (h' : resolveIterativelyN st nodes m d0 = .ok (k', d', rep')) : d' = d := by
  obtain ⟨k2, rep2, h2⟩ := budget_monotone_of_laws st nodes L n m hn hnm d0 k d rep h
  exact congrArg (·.2.1) (Except.ok.inj (h'.symm.trans h2))

/-! ### the generic theorems are not vacuous: a toy pass that needs three passes -/

def toyPass : Iter.Pass Nat := fun _ s => if s < 3 then .ok (s + 1, false) else .ok (s, true)

example : Iter.iterate toyPass 2 0 = .err := by decide
example : Iter.iterate toyPass 4 0 = .ok (4, 3) := by decide
example : Iter.iterate toyPass 10 0 = .ok (4, 3) := by decide

theorem toyPass_laws : Iter.Laws toyPass where
  stableId := by
    intro l s s' h
    simp only [toyPass] at h
    split at h
    · cases h
    · injection h with h; injection h with h _; exact h.symm
  firstStable := by
    intro l s s' h
    simp only [toyPass] at h
    split at h
    · cases h
    next hs =>
      injection h with h; injection h with h _; subst h
      exact ⟨false, by simp [toyPass, hs]⟩
  modeMono := by
    intro f s s' h
    exact ⟨true, h⟩
  firstIrrel := by
    intro r hr f
    obtain ⟨f', hf'⟩ := hr
    exact hf'

end Casm.C09
