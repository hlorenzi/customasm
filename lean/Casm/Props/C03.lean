import Casm.Model.Driver
import Casm.Proofs.AssembleLemmas
/-!
# C03 — failure is loud, success is clean (driver outcome logic)

About `drive` (`Casm.Model.Driver`), for every command line, every assembler answer and every
set of unwritable output files.  The assembler is a parameter; its own contract
("an answer without output carries at least one error") is the hypothesis `AsmLoud`.
`model_assembler_is_loud` discharges that contract for the whole-assembler model
(`Casm.assemble`), so `model_drive_dichotomy` / `model_failure_writes_nothing` hold for the
driver running the modelled assembler with no hypothesis left.
The never-crashes part of C03 is established by the mutation search on the implementation
(and, for the tokenizer and the location printer, by C13's theorems).
-/
namespace Casm.C03

/-- the assembler's contract: a failed assembly reports at least one error -/
def AsmLoud (asm : Command → AsmResult) : Prop := ∀ cmd n, asm cmd = .failed n → 1 ≤ n

def Success (o : RunOutcome) : Prop := o.ok = true ∧ o.errors = [] ∧ o.asmErrors = 0
def Failure (o : RunOutcome) : Prop := o.ok = false ∧ (o.errors ≠ [] ∨ 1 ≤ o.asmErrors)

theorem runGroups_spec (bits : Bits) (spans : List Span) (unw : List String) (gs : List OutGroup) (o : RunOutcome) :
    ∃ extra prints, (∀ w ∈ extra, ¬ (unw.contains w.1 = true)) ∧
      (runGroups bits spans unw gs o = { o with writes := o.writes ++ extra, prints := prints } ∨
       unw ≠ [] ∧ runGroups bits spans unw gs o =
         { o with ok := false, errors := o.errors ++ ["write error"], writes := o.writes ++ extra, prints := prints }) := by
  fun_induction runGroups bits spans unw gs o with
  | case1 o => exact ⟨[], o.prints, nofun, .inl (by rw [List.append_nil])⟩
  | case2 _ _ _ _ ih => exact ih
  | case3 _ _ _ _ _ _ ih => exact ih
  | case4 _ _ o _ _ _ a _ hu =>  -- the file cannot be written: the loop stops
    exact ⟨[], o.prints, nofun, .inr ⟨fun h => (by rw [h] at hu; cases hu), by rw [List.append_nil]⟩⟩
  | case5 _ _ o f _ data _ a _ hu ih =>  -- the file is written
    obtain ⟨e, p, h1, h2⟩ := ih
    refine ⟨(a, data) :: e, p, fun w hw => ?_, ?_⟩
    · rcases List.mem_cons.mp hw with rfl | hw
      · exact hu
      · exact h1 w hw
    · simpa only [List.append_assoc, List.singleton_append] using h2
  | case6 _ _ _ _ _ _ _ ih => exact ih

theorem runGroups_inv (bits : Bits) (spans : List Span) (unw : List String) (gs : List OutGroup) (o : RunOutcome)
    (h : Success o) :
    Success (runGroups bits spans unw gs o) ∨
    (Failure (runGroups bits spans unw gs o) ∧ (runGroups bits spans unw gs o).errors = ["write error"]) := by
  obtain ⟨_, _, _, hr | ⟨_, hr⟩⟩ := runGroups_spec bits spans unw gs o <;> rw [hr]
  · exact .inl h
  · exact .inr ⟨⟨rfl, .inl (List.append_ne_nil_of_right_ne_nil _ nofun)⟩, congrArg (· ++ _) h.2.1⟩

theorem drive_cases (args : List String) (asm : Command → AsmResult) (unw : List String) :
    (∃ (cmd : Command) (bits : Bits) (spans : List Span), drive args asm unw = runGroups bits spans unw cmd.groups ⟨true, [], 0, [], 0⟩) ∨
    drive args asm unw = ⟨true, [], 0, [], 0⟩ ∨
    (∃ e, drive args asm unw = ⟨false, [e], 0, [], 0⟩) ∨
    (∃ cmd n, asm cmd = .failed n ∧ drive args asm unw = ⟨false, [], n, [], 0⟩) := by
  generalize hr : drive args asm unw = r
  unfold drive at hr
  split at hr
  · exact .inr (.inr (.inl ⟨_, hr.symm⟩))
  · rcases ite_eq_cases hr with ⟨_, hr⟩ | ⟨_, hr⟩
    · exact .inr (.inl hr.symm)
    · rcases ite_eq_cases hr with ⟨_, hr⟩ | ⟨_, hr⟩
      · exact .inr (.inr (.inl ⟨_, hr.symm⟩))
      · split at hr
        next n ha => exact .inr (.inr (.inr ⟨_, n, ha, hr.symm⟩))
        next bits spans _ => exact .inl ⟨_, bits, spans, hr.symm⟩

/-- **Dichotomy.** Every run ends as a success (exit 0, no error) or as a failure (non-zero
    exit and at least one error); never "error but exit 0", never "exit 1 without a
    diagnostic". -/
theorem drive_dichotomy (args : List String) (asm : Command → AsmResult) (unw : List String)
    (hasm : AsmLoud asm) : Success (drive args asm unw) ∨ Failure (drive args asm unw) := by
  rcases drive_cases args asm unw with ⟨cmd, bits, spans, h⟩ | h | ⟨e, h⟩ | ⟨cmd, n, ha, h⟩ <;> rw [h]
  · exact (runGroups_inv bits spans unw cmd.groups _ ⟨rfl, rfl, rfl⟩).imp_right (·.1)
  · exact .inl ⟨rfl, rfl, rfl⟩
  · exact .inr ⟨rfl, .inl nofun⟩
  · exact .inr ⟨rfl, .inr (hasm cmd n ha)⟩

/-- a failed run has written nothing, or failed because a file could not be written -/
theorem failure_wrote_nothing_or_could_not_write (args : List String) (asm : Command → AsmResult) (unw : List String)
    (hf : (drive args asm unw).ok = false) :
    (drive args asm unw).writes = [] ∨ unw ≠ [] ∧ (drive args asm unw).errors = ["write error"] := by
  rcases drive_cases args asm unw with ⟨cmd, bits, spans, h⟩ | h | ⟨e, h⟩ | ⟨cmd, n, ha, h⟩ <;> rw [h] at hf ⊢
  · obtain ⟨_, _, _, hr | ⟨hne, hr⟩⟩ := runGroups_spec bits spans unw cmd.groups ⟨true, [], 0, [], 0⟩ <;> rw [hr] at hf ⊢
    · cases hf
    · exact .inr ⟨hne, rfl⟩
  -- the other three ends come before anything is written
  all_goals exact .inl rfl

/-- **No output on failure**, unless the failure is an output file that could not be
    written: if nothing is unwritable, a failed run writes no file at all. -/
theorem failure_writes_nothing (args : List String) (asm : Command → AsmResult)
    (hf : (drive args asm []).ok = false) : (drive args asm []).writes = [] :=
  (failure_wrote_nothing_or_could_not_write args asm [] hf).resolve_right fun h => h.1 rfl

/-- when an output file cannot be written, nothing is written to that file and the run fails -/
theorem unwritable_not_written (args : List String) (asm : Command → AsmResult) (unw : List String) :
    ∀ w ∈ (drive args asm unw).writes, ¬ (unw.contains w.1 = true) := by
  rcases drive_cases args asm unw with ⟨cmd, bits, spans, h⟩ | h | ⟨e, h⟩ | ⟨cmd, n, ha, h⟩ <;> rw [h]
  · obtain ⟨_, _, hw, hr | ⟨_, hr⟩⟩ := runGroups_spec bits spans unw cmd.groups ⟨true, [], 0, [], 0⟩ <;> rw [hr] <;> exact hw
  -- the other three ends come before anything is written
  all_goals exact fun _ hw => nomatch hw

/-! ## the modelled assembler satisfies the contract -/

/-- the driver's view of the whole-assembler model over a fixed set of source files -/
def modelAsm (fs : SrcFiles) (cmd : Command) : AsmResult :=
  let opts : Opts :=
    { maxIter := cmd.maxIter, optStatic := cmd.optStatic, optMatcher := cmd.optMatcher
      defines := cmd.defines.map fun d => (d.1, match d.2 with | .bool b => Value.bool b | .int v sz => Value.int ⟨v, sz⟩) }
  match assemble opts fs (cmd.inputs.map String.toList) with
  | .ok r => .output r.bits (r.spans.map fun s => ⟨s.offset, s.size⟩)
  | .error msgs => .failed msgs.length

/-- **the modelled assembler never fails silently** -/
theorem model_assembler_is_loud (fs : SrcFiles) : AsmLoud (modelAsm fs) := by
  intro cmd n h
  unfold modelAsm at h
  simp only at h
  split at h
  · cases h
  next msgs he =>
    cases h
    exact List.length_pos_iff.mpr (assemble_error_nonempty _ _ _ msgs he)

/-- the dichotomy for the driver running the modelled assembler: no hypothesis left -/
theorem model_drive_dichotomy (args : List String) (fs : SrcFiles) (unw : List String) :
    Success (drive args (modelAsm fs) unw) ∨ Failure (drive args (modelAsm fs) unw) :=
  drive_dichotomy args (modelAsm fs) unw (model_assembler_is_loud fs)

theorem model_failure_writes_nothing (args : List String) (fs : SrcFiles)
    (hf : (drive args (modelAsm fs) []).ok = false) : (drive args (modelAsm fs) []).writes = [] :=
  failure_writes_nothing args (modelAsm fs) hf

end Casm.C03
