import Casm.Model.Bits
import Casm.Proofs.BitsLemmas
/-!
# C04 — typed arguments and sized data accept exactly their range, never truncating

Model: `Casm.Model.Bits` (`checkArg` = `check_and_constrain_argument`,
`dataElem` = final-pass branch of `resolve_data_element`, `minSize` = `BigInt::min_size`).
The range of `sN`/`iN` is written without the fraction `2^(N-1)`: `-(2^N) ≤ 2*v` is
`-2^(N-1) ≤ v` for `N ≥ 1` and, at `N = 0`, reads `-1/2 ≤ v` as the statement's formula does.
-/
namespace Casm.C04

def InU (N : Nat) (v : Int) : Prop := 0 ≤ v ∧ v < 2 ^ N
def InS (N : Nat) (v : Int) : Prop := -(2 ^ N) ≤ 2 * v ∧ 2 * v < 2 ^ N
def InI (N : Nat) (v : Int) : Prop := -(2 ^ N) ≤ 2 * v ∧ v < 2 ^ N

def InTy : Ty → Nat → Int → Prop
  | .u => InU | .s => InS | .i => InI

/-- The statement at full strength (every width, including 0). -/
def C04_full : Prop := ∀ (t : Ty) (N : Nat) (v : Int), (checkArg t N v).isSome ↔ InTy t N v

/-- F17: at width 0 the formula admits `v = 0`, the code rejects everything. -/
theorem zero_width_rejects_all (t : Ty) (v : Int) : checkArg t 0 v = none := by
  have hm := minSize_pos v
  have : rejects t 0 v = true := by
    cases t
    · rw [rejects_u_prop]; omega
    · rw [rejects_s_prop]; omega
    · rw [rejects_i_prop]; omega
  rw [checkArg, if_pos this]

theorem C04_full_false : ¬ C04_full := by
  intro h
  have := (h .u 0 0).2 ⟨Int.le_refl 0, Int.pow_pos (by decide)⟩
  rw [zero_width_rejects_all] at this
  cases this

theorem accept_u (N : Nat) (hN : 1 ≤ N) (v : Int) :
    (checkArg .u N v).isSome ↔ 0 ≤ v ∧ v < 2 ^ N := by
  have hp1 : (0 : Int) < 2 ^ (N - 1) := Int.pow_pos (by decide)
  have hms := minSize_le_iff v N hN
  rw [isSome_checkArg_iff, rejects_u_prop]
  omega

theorem accept_i (N : Nat) (hN : 1 ≤ N) (v : Int) :
    (checkArg .i N v).isSome ↔ -(2 ^ (N - 1)) ≤ v ∧ v < 2 ^ N := by
  have hms := minSize_le_iff v N hN
  rw [isSome_checkArg_iff, rejects_i_prop]
  omega

theorem accept_s (N : Nat) (hN : 1 ≤ N) (v : Int) :
    (checkArg .s N v).isSome ↔ -(2 ^ (N - 1)) ≤ v ∧ v < 2 ^ (N - 1) := by
  obtain ⟨k, rfl⟩ : ∃ k, N = k + 1 := ⟨N - 1, by omega⟩
  have hpk : (0 : Int) < 2 ^ k := Int.pow_pos (by decide)
  simp only [Nat.add_sub_cancel]
  rw [isSome_checkArg_iff, rejects_s_prop]
  rcases Int.lt_trichotomy v 0 with h | h | h
  · have := minSize_neg_le v h k; omega
  · subst h; omega
  · have := minSize_pos_le v h k; omega

/-- The three ranges, uniformly, in the statement's own form; `1 ≤ N` is the guard. -/
theorem C04_partial (t : Ty) (N : Nat) (hN : 1 ≤ N) (v : Int) :
    (checkArg t N v).isSome ↔ InTy t N v := by
  obtain ⟨k, rfl⟩ : ∃ k, N = k + 1 := ⟨N - 1, by omega⟩
  have e : (2 : Int) ^ (k + 1) = 2 ^ k * 2 := Int.pow_succ 2 k
  cases t
  · rw [accept_u _ hN]; rfl
  · rw [accept_s _ hN]; simp only [InTy, InS, Nat.add_sub_cancel]; omega
  · rw [accept_i _ hN]; simp only [InTy, InI, Nat.add_sub_cancel]; omega

/-- An accepted value is passed on unchanged, with its size set to `N`. -/
theorem accepted_value (t : Ty) (N : Nat) (v : Int) (b : BI) (h : checkArg t N v = some b) :
    b = ⟨v, some N⟩ := by
  unfold checkArg at h
  split at h
  · cases h
  · exact (Option.some.inj h).symm

/-- Bits emitted for an accepted argument are the `N` low-order two's-complement bits,
    most significant first. -/
theorem emit_low_bits (t : Ty) (N : Nat) (v : Int) (b : BI) (h : checkArg t N v = some b)
    (k : Nat) (hk : k < N) : (emitBits b.v N)[k]? = some (tbit v (N - 1 - k)) := by
  rw [accepted_value t N v b h]
  simp [emitBits, hk]

theorem emod_two_pow_of_range (v : Int) (N : Nat) (hr : -(2 ^ N) ≤ v ∧ v < 2 ^ N) :
    (0 ≤ v → v % 2 ^ N = v) ∧ (v < 0 → v % 2 ^ N - 2 ^ N = v) := by
  refine ⟨fun h0 => Int.emod_eq_of_lt h0 hr.2, fun h0 => ?_⟩
  have : (v + 2 ^ N) % 2 ^ N = v + 2 ^ N := Int.emod_eq_of_lt (by omega) (by omega)
  rw [Int.add_emod_right] at this
  omega

/-- "Never truncates": the emitted `N`-bit string, read as an unsigned number for a
    non-negative value and as a two's-complement number for a negative one, is `v`. -/
theorem never_truncates (t : Ty) (N : Nat) (hN : 1 ≤ N) (v : Int) (b : BI)
    (h : checkArg t N v = some b) :
    (0 ≤ v → (ofBits (emitBits b.v N) : Int) = v) ∧
    (v < 0 → (ofBits (emitBits b.v N) : Int) - 2 ^ N = v) := by
  have hin : InTy t N v := (C04_partial t N hN v).1 (by rw [h]; rfl)
  rw [accepted_value t N v b h, ofBits_emitBits]
  apply emod_two_pow_of_range
  cases t <;> simp only [InTy, InU, InS, InI] at hin <;> omega

def isOk {ε α} : Except ε α → Bool
  | .ok _ => true
  | .error _ => false

/-- `#dN`: a value is accepted exactly when its size (the minimal one, if it has none) is at most `N`, and is then
    sliced to `N` bits -/
theorem dataElem_ok_iff (N : Nat) (x b : BI) : dataElem (some N) x = .ok b ↔ x.sizeOrMin ≤ N ∧ b = x.slice N 0 := by
  simp only [dataElem]
  by_cases hs : x.sizeOrMin > N
  · rw [if_pos hs]; exact ⟨nofun, fun h => absurd h.1 (Nat.not_le.2 hs)⟩
  · rw [if_neg hs]; exact ⟨fun h => ⟨Nat.le_of_not_lt hs, (Except.ok.inj h).symm⟩, fun h => h.2 ▸ rfl⟩

theorem isOk_dataElem (N : Nat) (x : BI) : isOk (dataElem (some N) x) = decide (x.sizeOrMin ≤ N) := by
  simp only [dataElem]
  by_cases hs : x.sizeOrMin > N
  · rw [if_pos hs]; exact (decide_eq_false (Nat.not_le.2 hs)).symm
  · rw [if_neg hs]; exact (decide_eq_true (Nat.le_of_not_lt hs)).symm

/-- `#dN` with an unsized value: accepted exactly when representable in `N` bits, signed
    or unsigned. -/
theorem data_accept_unsized (N : Nat) (hN : 1 ≤ N) (v : Int) :
    isOk (dataElem (some N) ⟨v, none⟩) ↔ -(2 ^ (N - 1)) ≤ v ∧ v < 2 ^ N := by
  rw [isOk_dataElem, decide_eq_true_iff]
  exact minSize_le_iff v N hN

/-- `#dN` with a sized value: accepted exactly when the value is no wider than `N`. -/
theorem data_accept_sized (N k : Nat) (v : Int) :
    isOk (dataElem (some N) ⟨v, some k⟩) ↔ k ≤ N := by
  rw [isOk_dataElem, decide_eq_true_iff]; rfl

/-- zero width: an unsized value is never accepted (F17 for `#d0`) -/
theorem data_zero_width_rejects (v : Int) : isOk (dataElem (some 0) ⟨v, none⟩) = false := by
  rw [isOk_dataElem]
  exact decide_eq_false (Nat.not_le.2 (minSize_pos v))

/-- The emitted element has size `N` and its bits are the low `N` bits of the value. -/
theorem data_emit (N : Nat) (x b : BI) (h : dataElem (some N) x = .ok b) :
    b.size = some N ∧ ∀ i, i < N → tbit b.v i = tbit x.v i := by
  rw [((dataElem_ok_iff N x b).1 h).2]
  exact ⟨BI.slice_size x N 0, fun i hi => by rw [tbit_slice_lt x N 0 i hi, Nat.zero_add]⟩

/-- An accepted unsized value is not cut: the `N` emitted bits denote `v`. -/
theorem data_never_truncates (N : Nat) (hN : 1 ≤ N) (v : Int) (b : BI)
    (h : dataElem (some N) ⟨v, none⟩ = .ok b) :
    b.v = v % 2 ^ N ∧ (0 ≤ v → b.v = v) ∧ (v < 0 → b.v - 2 ^ N = v) := by
  have hr := (data_accept_unsized N hN v).1 (by rw [h]; rfl)
  obtain ⟨_, rfl⟩ := (dataElem_ok_iff N _ b).1 h
  have hlt : (2 : Int) ^ (N - 1) < 2 ^ N := Int.pow_lt_pow_of_lt (by decide) (by omega)
  have e : (BI.slice ⟨v, none⟩ N 0).v = v % 2 ^ N := by simp [BI.slice, bitsRange_zero_right]
  rw [e]
  exact ⟨rfl, emod_two_pow_of_range v N ⟨by omega, hr.2⟩⟩

/-! ## non-vacuity -/
example : (checkArg .s 8 (-128)).isSome = true ∧ (checkArg .s 8 128).isSome = false ∧
    (checkArg .u 8 255).isSome = true ∧ (checkArg .i 8 (-129)).isSome = false := by decide +kernel
example : isOk (dataElem (some 8) ⟨-128, none⟩) = true ∧ isOk (dataElem (some 8) ⟨256, none⟩) = false ∧
    isOk (dataElem (some 8) ⟨0, some 9⟩) = false := by decide +kernel

end Casm.C04
