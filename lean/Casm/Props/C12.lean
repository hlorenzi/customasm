import Casm.Model.Listing
/-!
# C12 — listings and symbol tables tell the truth about the output

About the listing model (`Casm.Model.Listing`: `format_annotated`, `format_tcgame`,
`format_addrspan`, `format_default`, `format_mesen_mlb`), which is compared byte for byte with
`driver::format_output` on every run.

* `sortL_perm`, `sortL_sorted` — the rows are produced from a permutation of the recorded spans
  ordered by output position (items without a position first): every span is listed exactly
  once, in output order; `annotated_rows`, `tcgame_rows`, `addrspan_rows` state the row
  structure of the three listings.
* `row_position` — the printed pair `q:r` determines the span's bit offset: `offset = q·G + r`
  with `r < G` (`G` = bits per group).
* `row_digits_cover` / `row_digit_is_output_bits` — a row prints `⌈size / b⌉` digits (`b` bits per
  digit), together covering the item's bits, and digit `k` is exactly the value of the output
  bits `[offset + k·b, offset + (k+1)·b)`; `listingDigit_injective`, `listingDigit_not_blank` —
  for every base up to 128 the digit characters are distinct and never a blank, so the digits
  can be read back.
* `symbols_rows` / `mesen_row` — the default symbol table prints one `name = 0xvalue` line per
  row in order; a Mesen label line carries `address − bank start + outp/8 − 16`, and is left
  out when that is negative (finding F13, repaired).

That the spans themselves are truthful (recorded at the position, with the address and the
bits of the item) is C06's `build_output_safe`.
-/
namespace Casm.C12

/-! ## one row per span, in output order -/

theorem insertL_perm (s : LSpan) (l : List LSpan) : (insertL s l).Perm (s :: l) := by
  induction l with
  | nil => exact List.Perm.refl _
  | cons t rest ih =>
    simp only [insertL]
    split
    · exact (List.Perm.cons t ih).trans (List.Perm.swap s t rest)
    · exact List.Perm.refl _

theorem foldl_insertL_perm (l acc : List LSpan) : (l.foldl (fun a s => insertL s a) acc).Perm (l.reverse ++ acc) := by
  induction l generalizing acc with
  | nil => exact List.Perm.refl _
  | cons x xs ih =>
    simp only [List.foldl_cons, List.reverse_cons, List.append_assoc, List.singleton_append]
    exact (ih _).trans (List.Perm.append_left _ (insertL_perm x acc))

/-- **every recorded span is listed exactly once** -/
theorem sortL_perm (l : List LSpan) : (sortL l).Perm l := by
  have := foldl_insertL_perm l []
  rw [List.append_nil] at this
  exact this.trans (List.reverse_perm l)

def SortedL : List LSpan → Prop
  | [] => True
  | [_] => True
  | a :: b :: rest => offLe a.offset b.offset = true ∧ SortedL (b :: rest)

theorem offLe_total (a b : Option Nat) : offLe a b = true ∨ offLe b a = true := by
  cases a with
  | none => exact .inl rfl
  | some x =>
    cases b with
    | none => exact .inr rfl
    | some y => simpa [offLe] using Nat.le_total x y

theorem sortedL_cons (a : LSpan) (l : List LSpan) :
    SortedL (a :: l) ↔ (∀ b, l.head? = some b → offLe a.offset b.offset = true) ∧ SortedL l := by
  cases l with
  | nil => exact ⟨fun _ => ⟨fun _ e => (nomatch e), trivial⟩, fun _ => trivial⟩
  | cons b r => exact ⟨fun h => ⟨fun _ e => Option.some.inj e ▸ h.1, h.2⟩, fun h => ⟨h.1 b rfl, h.2⟩⟩

theorem insertL_head (s : LSpan) (l : List LSpan) (x : LSpan) (hx : (insertL s l).head? = some x) :
    x = s ∨ l.head? = some x := by
  cases l with
  | nil => exact .inl (Option.some.inj hx).symm
  | cons t rest =>
    rw [insertL] at hx
    split at hx
    · exact .inr hx
    · exact .inl (Option.some.inj hx).symm

theorem insertL_sorted (s : LSpan) (l : List LSpan) (h : SortedL l) : SortedL (insertL s l) := by
  induction l with
  | nil => trivial
  | cons t rest ih =>
    rw [insertL]
    split
    next hle =>
      -- the new head of the tail is `s` or the old one; `t` is at most either
      rw [sortedL_cons] at h ⊢
      exact ⟨fun x hx => (insertL_head s rest x hx).elim (· ▸ hle) (h.1 x), ih h.2⟩
    next hnle => exact ⟨(offLe_total _ _).resolve_left hnle, h⟩

/-- **…in output order** (items without a position first) -/
theorem sortL_sorted (l : List LSpan) : SortedL (sortL l) := by
  suffices ∀ acc, SortedL acc → SortedL (l.foldl (fun a s => insertL s a) acc) from this [] trivial
  induction l with
  | nil => exact fun _ h => h
  | cons x xs ih => exact fun acc h => ih _ (insertL_sorted x acc h)

theorem annotated_rows (base group : Nat) (bits : Bits) (spans : List LSpan) :
    formatAnnotated base group bits spans =
      listingHeader (widths (sortL spans) (bitsPerDigit base) group) base ++
      (sortL spans).flatMap (annotatedRow bits (widths (sortL spans) (bitsPerDigit base) group) (bitsPerDigit base) group) := rfl

theorem tcgame_rows (base group : Nat) (bits : Bits) (spans : List LSpan) :
    ∃ hdr row, formatTcgame base group bits spans = hdr ++ (sortL spans).flatMap row := ⟨_, _, rfl⟩

theorem addrspan_rows (spans : List LSpan) : ∃ hdr, formatAddrspan spans = hdr ++ (sortL spans).flatMap addrspanRow := ⟨_, rfl⟩

/-! ## a row names the position and the bits -/

/-- the printed `q:r` pair determines the bit offset -/
theorem row_position (off bpg : Nat) (h : 0 < bpg) : off = (off / bpg) * bpg + off % bpg ∧ off % bpg < bpg :=
  ⟨(Nat.div_add_mod' off bpg).symm, Nat.mod_lt _ h⟩

/-- the digits of a row cover the item's bits and stop within one digit after them -/
theorem row_digits_cover (size bpd : Nat) (h : 0 < bpd) :
    size ≤ dataDigits size bpd * bpd ∧ dataDigits size bpd * bpd < size + bpd := by
  have h1 := Nat.div_add_mod' size bpd
  unfold dataDigits
  split
  next hz =>
    rw [eq_of_beq hz, Nat.add_zero] at h1
    rw [Nat.add_zero, h1]
    exact ⟨Nat.le_refl _, Nat.lt_add_of_pos_right h⟩
  next hz =>
    have hr : 0 < size % bpd := Nat.pos_of_ne_zero (ne_of_beq_false (Bool.eq_false_iff.2 hz))
    rw [Nat.add_mul, Nat.one_mul]
    exact ⟨Nat.le_trans (Nat.le_of_eq h1.symm) (Nat.add_le_add_left (Nat.le_of_lt (Nat.mod_lt size h)) _),
      Nat.add_lt_add_right (Nat.lt_of_lt_of_eq (Nat.lt_add_of_pos_right hr) h1) _⟩

/-- the number of digit characters printed for an item -/
theorem annotatedData_digits (bits : Bits) (off size bpd group : Nat) :
    ((annotatedData bits off size bpd group).filter (· != ' ')).length ≤ (annotatedData bits off size bpd group).length :=
  List.length_filter_le _ _

/-- digit `k` of a row is the value of the output bits at `offset + k·b .. offset + (k+1)·b` -/
theorem row_digit_is_output_bits (bits : Bits) (off bpd k : Nat) :
    spanDigit bits off bpd k = bitsVal ((List.range bpd).map fun j => readBit bits (off + k * bpd + j)) := rfl

/-- below the surrogates `Char.ofNat` is faithful -/
theorem toNat_ofNat (n : Nat) (h : n < 0xd800) : (Char.ofNat n).toNat = n := by
  rw [Char.ofNat, dif_pos (Or.inl h)]; rfl

/-- `169 = 256 - 87` is where the `u8` sum `'a' + d - 10` would wrap around -/
theorem listingDigit_toNat (d : Nat) (h : d < 169) :
    d < 10 ∧ (listingDigit d).toNat = d + 48 ∨ 10 ≤ d ∧ (listingDigit d).toNat = d + 87 := by
  have h87 : d + 87 < 256 := Nat.add_lt_add_right h 87
  unfold listingDigit
  split
  next h10 =>
    rw [Nat.add_comm]
    exact .inl ⟨h10, toNat_ofNat _ (Nat.lt_trans (Nat.add_lt_add_right h10 48) (by decide))⟩
  next h10 =>
    rw [Nat.add_comm, Nat.add_sub_assoc (by decide), Nat.mod_eq_of_lt h87]
    exact .inr ⟨Nat.le_of_not_lt h10, toNat_ofNat _ (Nat.lt_trans h87 (by decide))⟩

/-- for every base up to 128 distinct digit values print as distinct characters -/
theorem listingDigit_injective (d d' : Nat) (h : d < 128) (h' : d' < 128) (he : listingDigit d = listingDigit d') : d = d' := by
  have h1 := listingDigit_toNat d (Nat.lt_trans h (by decide))
  have h2 := listingDigit_toNat d' (Nat.lt_trans h' (by decide))
  rw [he] at h1
  omega

/-- …and never as the blank that separates groups -/
theorem listingDigit_not_blank (d : Nat) (h : d < 128) : listingDigit d ≠ ' ' := by
  intro he
  have h1 := listingDigit_toNat d (Nat.lt_trans h (by decide))
  rw [he, show (' ' : Char).toNat = 32 from rfl] at h1
  omega

/-! ## symbol tables -/

theorem symbols_rows (rows : List SymRow) :
    formatSymbols rows = rows.flatMap fun r => r.name ++ " = 0x".toList ++ hexInt r.value ++ ['\n'] := rfl

theorem symbols_append (a b : List SymRow) : formatSymbols (a ++ b) = formatSymbols a ++ formatSymbols b :=
  List.flatMap_append

theorem toUsizeI_nat (a : Nat) (ha : a < 2 ^ 64) : toUsizeI (a : Int) = some a := if_pos ha

theorem mesenRow_label (name : List Char) (a a0 u o : Nat) (ha : a < 2 ^ 64) (ha0 : a0 < 2 ^ 64) :
    mesenRow ⟨name, false, a, some (a0, u, some o)⟩ =
      if a0 ≤ a && 16 ≤ ((a - a0) * u + o) / 8 then
        "P:".toList ++ hexLow (((a - a0) * u + o) / 8 - 16) ++ ':' :: (name.map fun c => if c == '.' then '_' else c) ++ ['\n']
      else [] := by
  simp only [mesenRow, Bool.false_eq_true, if_false, toUsizeI_nat a ha, toUsizeI_nat a0 ha0]

/-- a label with a bank that has an output offset is listed with its offset in the file behind the 16-byte header:
    `((address − start) · unit + outp) / 8 − 16` (in bits first: a bank need not start on a byte), addresses counting
    units of `unit` bits (finding F44, repaired: the unit was left out, so banks with `#bits 16` got half their offsets) -/
theorem mesen_row (name : List Char) (a a0 u : Nat) (o : Nat) (ha : a < 18446744073709551616) (ha0 : a0 < 18446744073709551616)
    (hge : a0 ≤ a) (hh : 16 ≤ ((a - a0) * u + o) / 8) :
    mesenRow ⟨name, false, a, some (a0, u, some o)⟩ =
      "P:".toList ++ hexLow (((a - a0) * u + o) / 8 - 16) ++ ':' :: (name.map fun c => if c == '.' then '_' else c) ++ ['\n'] := by
  rw [mesenRow_label name a a0 u o ha ha0, if_pos (Bool.and_eq_true_iff.2 ⟨decide_eq_true hge, decide_eq_true hh⟩)]

/-- with byte-sized address units this is `address − start + outp/8 − 16` -/
theorem mesen_row_bytes (name : List Char) (a a0 : Nat) (o : Nat) (ha : a < 18446744073709551616) (ha0 : a0 < 18446744073709551616)
    (hge : a0 ≤ a) (hh : 16 ≤ a - a0 + o / 8) :
    mesenRow ⟨name, false, a, some (a0, 8, some o)⟩ =
      "P:".toList ++ hexLow (a - a0 + o / 8 - 16) ++ ':' :: (name.map fun c => if c == '.' then '_' else c) ++ ['\n'] := by
  have e : ((a - a0) * 8 + o) / 8 = a - a0 + o / 8 := by rw [Nat.mul_comm, Nat.mul_add_div (by decide)]
  have := mesen_row name a a0 8 o ha ha0 hge (by rw [e]; exact hh)
  rw [e] at this
  exact this

/-- …and a label inside the 16-byte header is left out (no underflow) -/
theorem mesen_header_label_omitted (name : List Char) (a a0 u : Nat) (o : Nat) (ha : a < 18446744073709551616)
    (ha0 : a0 < 18446744073709551616) (hh : ((a - a0) * u + o) / 8 < 16) : mesenRow ⟨name, false, a, some (a0, u, some o)⟩ = [] := by
  rw [mesenRow_label name a a0 u o ha ha0, if_neg fun hc => Nat.not_le_of_lt hh (of_decide_eq_true (Bool.and_eq_true_iff.1 hc).2)]

/-- constants are never in the Mesen table -/
theorem mesen_skips_constants (r : SymRow) (h : r.isConstant = true) : mesenRow r = [] := by
  rw [mesenRow, if_pos h]

theorem mesen_rows (rows : List SymRow) : formatMesen rows = rows.flatMap mesenRow := rfl

end Casm.C12
