import Casm.Model.Matcher
import Casm.Proofs.WalkerLemmas
/-!
# C07 — instruction matching ignores case, extra spacing, comments and rule order

About the matcher model (`Casm.Model.Matcher`, `Casm.Model.Walker`, `Casm.Model.Token`).

* case: `exact_part_ignores_case` — an exact pattern part accepts a character iff their ASCII
  lower-casings agree (either side may be recased), and `maybeExpectChar_pattern_case`.
* spacing: `blank_run_skipped` — any run of blanks and tabs in front of a token is skipped
  by exact parts and parameters exactly like no run at all (so widening a run, swapping blanks
  and tabs, or inserting a run changes nothing at that place: `blank_runs_interchangeable`);
  `exact_part_after_blank_run`.
* comments: `comment_is_ignorable` — a `;…` comment is one ignorable token.
* rule order: `rule_order_irrelevant` — trying the candidate rules in another order gives a
  permutation of the same matches; `selected_have_max_literals`/`literal_beats_expression` —
  only matches with the largest count of literal pattern parts survive, whatever the order.

Not theorems (search + correspondence only): invariance of whole-program results under
re-partition into blocks and label renaming, and the interplay of the lookahead cut with
blanks (finding F22 shows where added blanks legitimately matter: whitespace pattern parts).
-/
namespace Casm.C07

theorem exact_part_ignores_case (a a' c c' : Char) (ha : lowerAscii a = lowerAscii a') (hc : lowerAscii c = lowerAscii c') :
    eqIgnoreAsciiCase a c = eqIgnoreAsciiCase a' c' := by
  rw [eqIgnoreAsciiCase, eqIgnoreAsciiCase, ha, hc]

/-- the case in which a rule spells a literal never matters -/
theorem maybeExpectChar_pattern_case (w : MW) (c c' : Char) (hc : lowerAscii c = lowerAscii c') :
    w.maybeExpectChar c = w.maybeExpectChar c' := by
  unfold MW.maybeExpectChar
  simp only
  split
  · rfl
  next ch _ _ => rw [exact_part_ignores_case ch ch c c' rfl hc]

example : eqIgnoreAsciiCase 'L' 'l' = true := by decide
example : eqIgnoreAsciiCase 'l' 'D' = false := by decide

/-- **a run of blanks and tabs in front of a token is skipped like no run at all** — this is
    what every exact pattern part and every parameter does before it looks at the text -/
theorem blank_run_skipped (ws s : List Char) (hws : ∀ c ∈ ws, isWhitespace c = true)
    (hs : ∀ c, s.head? = some c → isWhitespace c = false) :
    skipIgnorable (ws ++ s) = skipIgnorable s := skipIgnorable_blank_run ws s hws hs

/-- widening a run, or swapping blanks for tabs, changes nothing -/
theorem blank_runs_interchangeable (ws ws' s : List Char) (h : ∀ c ∈ ws, isWhitespace c = true) (h' : ∀ c ∈ ws', isWhitespace c = true)
    (hs : ∀ c, s.head? = some c → isWhitespace c = false) :
    skipIgnorable (ws ++ s) = skipIgnorable (ws' ++ s) :=
  (blank_run_skipped ws s h hs).trans (blank_run_skipped ws' s h' hs).symm

theorem exact_part_after_skipped (a s : List Char) (pos pos' : Nat) (c : Char) (h : skipIgnorable (a ++ s) = skipIgnorable s) :
    ((⟨a ++ s, (a ++ s).length, pos⟩ : MW).maybeExpectChar c).map (·.rest) =
    ((⟨s, s.length, pos'⟩ : MW).maybeExpectChar c).map (·.rest) := by
  have hl := skipIgnorable_length s
  simp only [MW.maybeExpectChar, MW.vis, List.take_length, h]
  generalize skipIgnorable s = v at hl ⊢
  cases v with
  | nil => rfl
  | cons ch rest =>
    -- the prefix adds its length to the number of characters skipped, and is dropped with them
    have : (a ++ s).length - (ch :: rest).length + 1 = a.length + (s.length - (ch :: rest).length + 1) := by
      rw [List.length_append, Nat.add_sub_assoc hl, Nat.add_assoc]
    simp only [this, MW.advance, List.drop_length_add_append]
    cases eqIgnoreAsciiCase ch c <;> rfl

/-- an exact pattern part sees the same remaining text with and without the run -/
theorem exact_part_after_blank_run (ws s : List Char) (pos pos' : Nat) (c : Char) (hws : ∀ c ∈ ws, isWhitespace c = true)
    (hs : ∀ c, s.head? = some c → isWhitespace c = false) :
    ((⟨ws ++ s, (ws ++ s).length, pos⟩ : MW).maybeExpectChar c).map (·.rest) =
    ((⟨s, s.length, pos'⟩ : MW).maybeExpectChar c).map (·.rest) :=
  exact_part_after_skipped ws s pos pos' c (skipIgnorable_blank_run ws s hws hs)

/-- a `;` comment up to the end of the line is one ignorable token: whatever it contains
    (even text that looks like an instruction) is skipped -/
theorem comment_is_ignorable (rest : List Char) (h : ∀ c, rest.head? = some c → c ≠ '*') :
    (tokenAt (';' :: rest)).kind.isIgnorable = true ∧
    (tokenAt (';' :: rest)).text = ';' :: rest.take (spanLen (fun c => c != '\n') rest) := by
  rw [tokenAt_line_comment rest h]
  exact ⟨comment_ignorable, rfl⟩

example : skipIgnorable " \t  ld".toList = "ld".toList := by decide +kernel
example : skipIgnorable "; ld 1, 2\nadd".toList = "add".toList := by decide +kernel

/-- **the look-ahead cut skips a comment as a whole**: whatever the comment holds — the character
    looked for, parentheses, braces — has no effect, and a comment does not count as a token already seen
    (finding F43, repaired: the scan used to run over the raw characters of the comment) -/
theorem lookahead_skips_comments (wanted : Char) (fuel : Nat) (cs : List Char) (idx : Nat) (seen : Bool) (paren brace : Nat) :
    lookaheadScan wanted (fuel + 1) (';' :: cs) idx seen paren brace =
      (let n := (decideNextToken (';' :: cs)).2
       let n := if n == 0 then 1 else n
       lookaheadScan wanted fuel ((';' :: cs).drop n) (idx + n) seen paren brace) := by
  rw [lookaheadScan]
  rfl

/-- **the look-ahead cut steps over a string literal as a whole**: no character inside the quotes is taken for the
    separator, a bracket or a comment sign, and the literal counts as a token seen (finding F63, repaired) -/
theorem lookahead_skips_strings (wanted : Char) (fuel : Nat) (cs : List Char) (idx : Nat) (seen : Bool) (paren brace : Nat)
    (h : (decideNextToken ('"' :: cs)).1 = .String) :
    lookaheadScan wanted (fuel + 1) ('"' :: cs) idx seen paren brace =
      (let n := (decideNextToken ('"' :: cs)).2
       let n := if n == 0 then 1 else n
       lookaheadScan wanted fuel (('"' :: cs).drop n) (idx + n) true paren brace) := by
  rw [lookaheadScan, h]
  rfl

/-- **the blank a pattern spells is satisfied by a comment too** (`ld;* c *;a` for the pattern `ld a`) -/
theorem pattern_blank_accepts_a_comment (defs : List Ruledef) (fuel : Nat) (rule : Rule) (rest : List RPart) (w : MW)
    (consumeAll : Bool) (m : IMatch) (h : (tokenAt w.vis).kind = .Comment) :
    matchWithRule defs (fuel + 1) rule (.whitespace :: rest) w consumeAll m = matchWithRule defs fuel rule rest w consumeAll m := by
  rw [matchWithRule]
  simp only [h, bne_self_eq_false, Bool.and_false, Bool.false_eq_true, if_false]

/-- **trying the rules in another order yields the same matches** (as a multiset) -/
theorem rule_order_irrelevant (defs : List Ruledef) (src : List Char) (cands cands' : List (Nat × Nat))
    (h : cands.Perm cands') : (workingOf defs src cands).Perm (workingOf defs src cands') := by
  unfold workingOf
  exact List.Perm.flatMap_right _ h

theorem foldl_max_ge (l : List Nat) (a : Nat) : l.foldl max a ∈ a :: l ∧ ∀ b ∈ a :: l, b ≤ l.foldl max a :=
  List.max?_eq_some_iff.mp List.max?_cons'

/-- **only matches with the largest count of literal pattern parts are kept** -/
theorem selected_have_max_literals (defs : List Ruledef) (w : Working) (m : IMatch) (hm : m ∈ selectMatches defs w) :
    ∀ m' ∈ dedupMatches (w.map (·.1)) [], exactCountRec defs m' ≤ exactCountRec defs m := by
  intro m' hm'
  unfold selectMatches at hm
  simp only at hm
  split at hm
  · cases hm
  · -- `m` passed the filter: its count is the maximum
    rw [eq_of_beq (List.mem_filter.1 hm).2]
    exact (foldl_max_ge _ 0).2 _ (List.mem_cons_of_mem _ (List.mem_map.mpr ⟨m', hm', rfl⟩))

/-- **a rule that spells an operand literally beats one that reads it as an expression**: a
    match with fewer literal parts than another surviving candidate is never selected -/
theorem literal_beats_expression (defs : List Ruledef) (w : Working) (mLit mExpr : IMatch)
    (hl : mLit ∈ dedupMatches (w.map (·.1)) []) (hlt : exactCountRec defs mExpr < exactCountRec defs mLit) :
    mExpr ∉ selectMatches defs w := by
  intro h
  exact Nat.not_le_of_lt hlt (selected_have_max_literals defs w mExpr h mLit hl)

end Casm.C07
