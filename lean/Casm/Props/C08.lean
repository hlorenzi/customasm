import Casm.Model.Assemble
import Casm.Proofs.StaticMatch
import Casm.Proofs.StableId
import Casm.Proofs.SwitchPass
import Casm.Props.C02
import Casm.Proofs.SwitchFinal
import Casm.Proofs.FrontOKb
/-!
# C08 — the two optimisation switches never change any result

Matcher optimisation (`Casm.matchInstr true/false`, model of `match_instr` with and without the
prefix index of `ruledef_map.rs`):

* `index_candidates_are_rules` — whatever the prefix, the index only ever proposes rules of
  top-level rule blocks; so
* `optimised_matches_are_matches` — every way an instruction matches through the index is also
  found by the full scan, and `optimised_rejects_what_full_scan_rejects`;
* `same_matches_of_index_complete` — if the index proposes every rule that matches the
  instruction (`IndexComplete`), both settings find exactly the same matches.  `IndexComplete`
  is the one fact that is *false* in general (finding F10: the index reads the leading literal
  characters without skipping blanks); `index_complete_false` is the kernel-checked witness,
  and the search attributes an observed difference to F10 only if the model says so.

Static-value optimisation (the switch guards the three "accept in the first pass, mark resolved
and never recompute" branches).  What makes those branches harmless is that the analysis
`is_value_statically_known` / `get_match_statically_known` is *sound*: what it calls statically
known really does not depend on anything that changes between passes.  That is proved here for
the model of the analysis and of the evaluator, for all expressions, rules and arguments:

* `known_expression_is_state_independent` — a statically known data element or constant
  evaluates identically (value, error text, context) in every resolver state, at every address,
  in every pass, guessing allowed or not;
* `known_match_keeps_its_result` — a match the analysis calls statically known, once it has
  resolved to a definite value, resolves to the same value in every later state (later = every
  statically known symbol that had a value keeps it; anything else — addresses, labels, other
  symbols, pass flags — may differ);
* `frozen_instruction_is_what_recomputation_chooses` — under the conditions of the short-cut
  (every candidate statically known, none unresolved, a single smallest encoding) resolving the
  instruction again in any later state chooses that same encoding.

* `evaluation_ignores_the_static_switch`, `later_passes_ignore_the_static_switch` — expression
  evaluation, candidate resolution and asm blocks never read the switch; every pass but the first
  is the same function under both settings;
* `optimised_result_is_a_solution_of_the_unoptimised_assembler` — whenever the optimised
  assembler succeeds (budget ≥ 2), the state it reads its output from, with the marks of instructions
  and data elements cleared (`Defs.unfreeze`), is a fixed point of the *unoptimised* assembler's strict
  pass: the unoptimised assembler, handed that result, recomputes every instruction and data element
  to the same value, stable and silent (a constant frozen in the first pass keeps its mark and is
  skipped there; the simulation below clears those marks too, `Defs.unfS`);
* **`C08_static_switch`** — the statement itself, no hypothesis on the program: for every option set
  with the optimisation on and a budget of at least two passes, every file set and root list,
  `assemble` with and without the optimisation returns the same error or the same bits, spans and
  symbols.  The chain: the two front ends agree up to marks (`the_two_front_ends_agree_up_to_marks`),
  the facts the simulation needs hold of every front-end result (`front_end_facts`), the two iterations
  run in lockstep pass by pass (`static_switch_pass_by_pass`, `static_switch_lockstep`), a stable pass
  leaves a fixed point (`stable_pass_leaves_a_fixed_point`), and what is emitted reads values, never
  marks.  The budget of one pass is excluded: the statement is false there (finding F29, open: without
  the optimisation a program with a forward reference cannot converge in one pass).

Stating these theorems is what exposed findings F30–F35 (each a stale frozen encoding, demonstrated
on the real binary and repaired): a parameter named like a constant, an argument read in the rule's
scope, a block argument assigning a local, symbols named `pc` or like a built-in function, a candidate
still unresolved when the instruction was frozen, a rule parameter *named* `incbin`, `incbinstr` or
`inchexstr`; the theorems carry no side condition.  The lockstep simulation exposed two more, F36 (a
constant frozen in the first pass reported "unchanged") and F37 (`eval_simple` resolved a callee named
like a built-in through a user symbol), both repaired.
-/
namespace Casm.C08

theorem mem_allRules {defs : List Ruledef} {r i : Nat} :
    (r, i) ∈ allRules defs ↔ r < defs.length ∧ (defs.getD r default).isSub = false ∧ i < (defs.getD r default).rules.length := by
  unfold allRules
  simp only [List.mem_flatMap, List.mem_range]
  constructor
  · rintro ⟨r', hr', h⟩
    split at h
    · cases h
    next hs =>
      simp only [List.mem_map, List.mem_range] at h
      obtain ⟨i', hi', he⟩ := h
      injection he with h1 h2
      subst h1 h2
      exact ⟨hr', by simpa using hs, hi'⟩
  · rintro ⟨hr, hs, hi⟩
    refine ⟨r, hr, ?_⟩
    simp only [hs, Bool.false_eq_true, if_false, List.mem_map, List.mem_range]
    exact ⟨i, hi, rfl⟩

theorem entries_are_rules {defs : List Ruledef} {p : List Char} {x : Nat × Nat}
    (h : x ∈ entriesWithPrefix defs p) : x ∈ allRules defs := by
  obtain ⟨r, i⟩ := x
  unfold entriesWithPrefix at h
  simp only [List.mem_flatMap, List.mem_range] at h
  obtain ⟨r', hr', h⟩ := h
  split at h
  · cases h
  next hs =>
    obtain ⟨i', hi', he⟩ := List.mem_filterMap.mp h
    split at he <;> cases he
    exact mem_allRules.mpr ⟨hr', by simpa using hs, List.mem_range.mp hi'⟩

/-- **the index proposes only rules of top-level blocks**, for every prefix -/
theorem index_candidates_are_rules (defs : List Ruledef) (p : List Char) (x : Nat × Nat)
    (h : x ∈ queryPrefixed defs p) : x ∈ allRules defs := by
  unfold queryPrefixed at h
  simp only [List.mem_flatMap, List.mem_range] at h
  obtain ⟨k, _, hk⟩ := h
  exact entries_are_rules hk

theorem mem_workingOf {defs : List Ruledef} {src : List Char} {cands : List (Nat × Nat)} {y : IMatch × MW} :
    y ∈ workingOf defs src cands ↔ ∃ x ∈ cands, y ∈ workingOf defs src [x] := by
  unfold workingOf
  simp only [List.mem_flatMap, List.flatMap_cons, List.flatMap_nil, List.append_nil]

/-- **every match found through the index is found by the full scan** -/
theorem optimised_matches_are_matches (defs : List Ruledef) (src : List Char) (y : IMatch × MW)
    (h : y ∈ workingOf defs src (queryPrefixed defs (parsePrefix src))) :
    y ∈ workingOf defs src (allRules defs) := by
  obtain ⟨x, hx, hy⟩ := mem_workingOf.mp h
  exact mem_workingOf.mpr ⟨x, index_candidates_are_rules defs _ x hx, hy⟩

theorem dedup_acc_prefix (l acc : List IMatch) : ∃ t, dedupMatches l acc = acc ++ t := by
  induction l generalizing acc with
  | nil => exact ⟨[], by simp [dedupMatches]⟩
  | cons m rest ih =>
    simp only [dedupMatches]
    split
    · exact ih acc
    · obtain ⟨t, ht⟩ := ih (acc ++ [m])
      exact ⟨m :: t, by rw [ht]; simp⟩

theorem selectMatches_nil (defs : List Ruledef) : selectMatches defs [] = [] := by
  simp [selectMatches, dedupMatches]

/-- **the optimisation never accepts an instruction the full scan rejects**: if no rule
    matches at all, the index finds no match either -/
theorem optimised_rejects_what_full_scan_rejects (defs : List Ruledef) (src : List Char)
    (h : workingOf defs src (allRules defs) = []) : matchInstr true defs src = [] := by
  have : workingOf defs src (queryPrefixed defs (parsePrefix src)) = [] :=
    List.eq_nil_iff_forall_not_mem.mpr fun y hy => List.not_mem_nil (h ▸ optimised_matches_are_matches defs src y hy)
  simp [matchInstr, this, selectMatches_nil]

/-- the index proposes every rule that matches the instruction text -/
def IndexComplete (defs : List Ruledef) (src : List Char) : Prop :=
  ∀ x ∈ allRules defs, workingOf defs src [x] ≠ [] → x ∈ queryPrefixed defs (parsePrefix src)

/-- **both settings find exactly the same matches wherever the index is complete** -/
theorem same_matches_of_index_complete (defs : List Ruledef) (src : List Char) (hc : IndexComplete defs src)
    (y : IMatch × MW) :
    y ∈ workingOf defs src (queryPrefixed defs (parsePrefix src)) ↔ y ∈ workingOf defs src (allRules defs) := by
  constructor
  · exact optimised_matches_are_matches defs src y
  · intro h
    obtain ⟨x, hx, hy⟩ := mem_workingOf.mp h
    refine mem_workingOf.mpr ⟨x, hc x hx ?_, hy⟩
    intro he; rw [he] at hy; cases hy

/-! ### `IndexComplete` is false in general: finding F10 -/

/-- one block with the single rule `halt => 0x55` -/
def haltRules : List Ruledef :=
  [⟨false, [⟨[.exact 'h', .exact 'a', .exact 'l', .exact 't'], 4, [], .lit (.int ⟨0x55, some 8⟩)⟩]⟩]

/-- `h a l t` matches the rule `halt` (exact parts skip blanks) but the index, which stops at
    the first blank, does not propose it -/
theorem index_complete_false : ¬ IndexComplete haltRules "h a l t".toList := by
  intro h
  have h1 : (0, 0) ∈ allRules haltRules := by decide
  have h2 : workingOf haltRules "h a l t".toList [(0, 0)] ≠ [] := by
    intro he
    have : (workingOf haltRules "h a l t".toList [(0, 0)]).isEmpty = false := by decide
    rw [he] at this; cases this
  have h3 := h (0, 0) h1 h2
  have : (queryPrefixed haltRules (parsePrefix "h a l t".toList)).contains (0, 0) = false := by decide
  have h4 : (queryPrefixed haltRules (parsePrefix "h a l t".toList)).contains (0, 0) = true :=
    List.contains_iff_mem.mpr h3
  rw [this] at h4; cases h4

/-- …and the guard the search uses for the attribution rejects exactly this spelling, while it
    accepts `halt` -/
example : noBlankInLeadingLiteral "h a l t".toList = false := by decide
example : noBlankInLeadingLiteral "halt".toList = true := by decide
/-- without blanks the index is complete on the witness rules -/
example : (queryPrefixed haltRules (parsePrefix "halt".toList)).contains (0, 0) = true := by decide

/-! ## the static-value optimisation: soundness of the analysis -/

/-- **C08 (static switch), data elements and constants** -/
theorem known_expression_is_state_independent (st : Static) (defs1 defs2 : Defs) (ctx1 ctx2 : RCtx) (e : Expr)
    (hk : staticallyKnown pureP e = true) :
    resolverEval st defs2 ctx2 {} e = resolverEval st defs1 ctx1 {} e :=
  pure_static_eval st defs1 defs2 ctx1 ctx2 e hk

/-- **C08 (static switch), one candidate of an instruction** -/
theorem known_match_keeps_its_result (st : Static) (defsM defs1 defs2 : Defs) (ctx1 ctx2 : RCtx)
    (rel : SRel defsM defs1 defs2 ctx1 ctx2) (f fk : Nat) (m : IMatch) (v : Value) (c' : ECtx)
    (hk : matchKnown st.decls defsM ctx1.symCtx fk m = true)
    (h : resolveMatch st defs1 f ctx1 m {} = .ok (v, c')) (hv : v ≠ .unknown) :
    resolveMatch st defs2 f ctx2 m {} = .ok (v, c') :=
  ((resolve_static st defsM defs1 defs2 ctx1 ctx2 rel f).1 fk m {} v c' hk
    ⟨fun _ _ _ => rfl, fun _ _ hl _ => by cases hl⟩ h (by cases v with | unknown => exact absurd rfl hv | _ => rfl)).1

/-- **C08 (static switch), the frozen instruction** -/
theorem frozen_instruction_is_what_recomputation_chooses (st : Static) (defsM defs1 defs2 : Defs) (ctx1 ctx2 : RCtx)
    (rel : SRel defsM defs1 defs2 ctx1 ctx2) (fk : Nat) (cands : List IMatch)
    (hk : ∀ c ∈ cands, matchKnown st.decls defsM ctx1.symCtx fk c = true)
    (hd : allDefinite st defs1 ctx1 cands = true)
    (encs : List (Nat × BI)) (rep : List String)
    (h1 : resolveEncoding st defs1 evalFuel ctx1 cands {} = .ok (some encs, rep)) (hs : encs.length = 1) :
    resolveEncoding st defs2 evalFuel ctx2 cands {} = .ok (some encs, []) :=
  frozen_instruction_sound st defsM defs1 defs2 ctx1 ctx2 rel fk cands hk hd encs rep h1 hs

/-- the names the model treats as built-in inclusion functions / as the address are the ones the
    code answers before any declared symbol (`resolve_builtin_fn`, `get_statically_known_builtin_fn`
    in `resolver/eval_fn.rs`, `eval_builtin_symbol` in `resolver/eval.rs`; tables regenerated from
    the source on every run) -/
theorem builtin_names_are_the_code's :
    (∀ n, isAsmBuiltinName n = Gen.asmBuiltinFns.contains n) ∧
    Gen.asmBuiltinKnown = Gen.asmBuiltinFns.map (fun n => (n, true)) ∧ Gen.addressNames = ["$", "pc"] := by
  refine ⟨fun n => ?_, by decide, by decide⟩
  have : Gen.asmBuiltinFns = ["incbin", "incbinstr", "inchexstr"] := by decide
  rw [this]
  simp only [isAsmBuiltinName, List.contains, List.elem]
  cases (n == "incbin") <;> cases (n == "incbinstr") <;> cases (n == "inchexstr") <;> rfl

/-- **evaluation never reads the static switch** -/
theorem evaluation_ignores_the_static_switch (st : Static) (b : Bool) (d : Defs) :
    resolverEval (st.withStatic b) d = resolverEval st d :=
  resolverEval_switch st b (SameView.refl d)

/-- **every pass but the first is the same under both settings** -/
theorem later_passes_ignore_the_static_switch (st : Static) (b last : Bool) (nodes : List AstNode) (d : Defs) :
    resolveOnce (st.withStatic b) nodes false last d = resolveOnce st nodes false last d :=
  resolveOnce_switch st b last nodes d

/-- **C08 (static switch): the optimised result is a solution of the unoptimised assembler** -/
theorem optimised_result_is_a_solution_of_the_unoptimised_assembler (opts : Opts) (fs : SrcFiles) (roots : List (List Char))
    (res : AsmOk) (hb : 2 ≤ opts.maxIter) (ho : opts.optStatic = true) (h : assemble opts fs roots = .ok res) :
    ∃ st nodes defs0 d, frontEnd opts fs roots = .ok (st, nodes, defs0) ∧ Casm.C02.ReadFrom st nodes d res ∧
      resolveOnce (st.withStatic false) nodes false true d.unfreeze = .ok (d.unfreeze, true, []) := by
  obtain ⟨st, nodes, defs0, d, hf, hr, hfix⟩ := Casm.C02.success_recomputes_everything opts fs roots res hb ho h
  refine ⟨st, nodes, defs0, d, hf, hr, ?_⟩
  rw [resolveOnce_switch]
  exact hfix

/-! ### the two settings, run side by side

`st` optimises, `st.withStatic false` is the assembler started with `--debug-no-optimize-static`;
its state is `d.unfS H`: the state of the first with the first-pass marks cleared (all but the
marks `H` both set: `-d` definitions and function symbols). -/

/-- **one pass under the two settings**: the same fatal error, or the same values and messages, and
    — in every pass but the first — the same stability flag; in the first pass the unoptimised
    assembler may report a change that the optimised one does not (a frozen instruction or data
    element), never the other way round (finding F36 was the case where it did). -/
theorem static_switch_pass_by_pass (H : Nat → Bool) (st : Static) (nodes : List AstNode) (d0 : Defs) (f : FrontOK st nodes d0)
    (fs : FrontOKS st nodes d0 H) (first last : Bool) (hfl : first = true → last = false)
    (d : Defs) (g : Good st nodes d0 d) (gc : GoodC st nodes d0 d H)
    (ph : if first = true then st.opts.optStatic = true else K3 nodes d0 d) :
    match resolveOnce st nodes first last d with
    | .error e => resolveOnce (st.withStatic false) nodes first last (d.unfS H) = .error e
    | .ok (d', s, r) => GoodC st nodes d0 d' H ∧
        ∃ s2, resolveOnce (st.withStatic false) nodes first last (d.unfS H) = .ok (d'.unfS H, s2, r) ∧
          (s2 = true → s = true) ∧ (first = false → s2 = s) :=
  resolveOnce_sim H st nodes d0 f fs first last hfl d g gc ph

/-- **the two iterations in lockstep**: whenever their first passes agree on stability, the two
    assemblers return the same iteration count, the same values and messages, or the same errors
    (budget at least two) -/
theorem static_switch_lockstep (H : Nat → Bool) (st : Static) (nodes : List AstNode) (d0 : Defs)
    (f : FrontOK st nodes d0) (fs : FrontOKS st nodes d0 H) (ho : st.opts.optStatic = true) (m : Nat)
    (hagree : ∀ d1 r1, resolveOnce st nodes true false d0 = .ok (d1, true, r1) →
      resolveOnce (st.withStatic false) nodes true false (d0.unfS H) = .ok (d1.unfS H, true, r1)) :
    resolveIterativelyN (st.withStatic false) nodes (m + 2) (d0.unfS H) =
      (resolveIterativelyN st nodes (m + 2) d0).map (usFin H) :=
  resolveIterativelyN_switch_lockstep H st nodes d0 f fs ho m hagree

/-- **a successful optimised iteration is a successful unoptimised one**, with the same values and
    messages, lockstep or not (budget at least two) -/
theorem optimised_success_is_unoptimised_success (H : Nat → Bool) (st : Static) (nodes : List AstNode) (d0 : Defs)
    (f : FrontOK st nodes d0) (fs : FrontOKS st nodes d0 H) (ho : st.opts.optStatic = true) (hwf : NoClash nodes) (m : Nat)
    (k : Nat) (d : Defs) (rep : List String) (h : resolveIterativelyN st nodes (m + 2) d0 = .ok (k, d, rep)) :
    ∃ k', resolveIterativelyN (st.withStatic false) nodes (m + 2) (d0.unfS H) = .ok (k', d.unfS H, rep) :=
  resolveIterativelyN_switch_success H st nodes d0 f fs ho hwf m k d rep h

/-- **a definite value of the constant pre-pass is the resolver's value** for a statically known
    expression, in every state, at every address, in every pass (finding F37 was the case where it
    was not) -/
theorem pre_pass_value_is_the_resolver's (st : Static) (d : Decls) (defs : Defs) (e : Expr) (hk : staticallyKnown pureP e = true)
    (v : Value) (h : evalSimple d defs e = .ok v) (hv : v ≠ .unknown) :
    ∃ c, ∀ s ctx, resolverEval st s ctx {} e = .ok (v, c) :=
  evalSimple_pure st d defs e hk v h hv

/-- the decidable facts about constants imply the ones the simulation uses -/
theorem constant_facts_decided (st : Static) (nodes : List AstNode) (d0 : Defs) (h : frontOKSb st nodes d0 = true) :
    FrontOKS st nodes d0 (markedByBoth st d0) :=
  frontOKSb_sound st nodes d0 h

/-- **C08 (static switch), end to end for acceptance**: a program the optimising assembler accepts
    is accepted with `--debug-no-optimize-static`, with the same bits, spans and symbols (budget at
    least two).  `FrontRel` (the two front ends return the same declarations, nodes and values, the
    unoptimised one with the marks `markedByBoth` only) and `frontOKSb` are decidable statements
    about this input; every correspondence run evaluates them on every program (`frel` requests). -/
theorem accepted_with_the_optimisation_is_accepted_without (opts : Opts) (fs : SrcFiles) (roots : List (List Char))
    (ho : opts.optStatic = true) (hmax : 2 ≤ opts.maxIter) (hrel : FrontRel opts fs roots)
    (hS : ∀ st nodes d0, frontEnd opts fs roots = .ok (st, nodes, d0) → frontOKSb st nodes d0 = true)
    (out : AsmOk) (h : assemble opts fs roots = .ok out) :
    ∃ out', assemble opts.staticOff fs roots = .ok out' ∧
      out'.bits = out.bits ∧ out'.spans = out.spans ∧ out'.symbols = out.symbols := by
  have e := assemble_static_switch opts fs roots ho hmax
  rw [h] at e
  obtain ⟨out', hoff, e⟩ := map_ok _ _ _ e
  exact ⟨out', hoff, congrArg (·.1) e, congrArg (·.2.1) e, congrArg (·.2.2) e⟩

/-- **a stable pass leaves a fixed point of the guessing pass** (the one case in which the two
    iterations are not in lockstep: the optimised first pass stable, every emitting item frozen) -/
theorem stable_pass_leaves_a_fixed_point (st : Static) (first : Bool) (nodes : List AstNode) (hwf : NoClash nodes) (u : Uniq nodes)
    (d0 d1 : Defs) (r1 : List String) (hok0 : NodesOK d0 nodes)
    (h : resolveOnce st nodes first false d0 = .ok (d1, true, r1)) :
    resolveOnce st nodes false false d1 = .ok (d1, true, []) :=
  corner_resolveOnce st first nodes hwf u d0 d1 r1 hok0 h

/-- **C08 for the static switch, at the level of the iteration**: for every budget of at least two
    the two assemblers fail with the same messages or succeed with the same values and messages; only
    the iteration count may differ -/
theorem static_switch_same_outcome (H : Nat → Bool) (st : Static) (nodes : List AstNode) (d0 : Defs)
    (f : FrontOK st nodes d0) (fs : FrontOKS st nodes d0 H) (ho : st.opts.optStatic = true) (hwf : NoClash nodes)
    (u : Uniq nodes) (hok0 : NodesOK d0 nodes) (m : Nat) :
    (resolveIterativelyN (st.withStatic false) nodes (m + 2) (d0.unfS H)).map dropK =
      ((resolveIterativelyN st nodes (m + 2) d0).map (usFin H)).map dropK :=
  resolveIterativelyN_switch_outcome H st nodes d0 f fs ho hwf u hok0 m

/-- **C08 (static switch), end to end**: with `--debug-no-optimize-static` the assembler fails with
    the same messages or succeeds with the same bits, spans and symbols, for every budget of at least
    two (budget 1 is finding F29).  The three hypotheses are decidable statements about the input
    (`FrontRel`: the two front ends agree up to marks; `frontOKSb`, `frontUniqb`: facts about the front
    end's result); every correspondence run evaluates them on every program (`frel` requests). -/
theorem the_static_switch_never_changes_the_outcome (opts : Opts) (fs : SrcFiles) (roots : List (List Char))
    (ho : opts.optStatic = true) (hmax : 2 ≤ opts.maxIter) (hrel : FrontRel opts fs roots)
    (hS : ∀ st nodes d0, frontEnd opts fs roots = .ok (st, nodes, d0) → frontOKSb st nodes d0 = true ∧ frontUniqb nodes d0 = true) :
    (assemble opts.staticOff fs roots).map AsmOk.core = (assemble opts fs roots).map AsmOk.core :=
  assemble_static_switch opts fs roots ho hmax

/-- the two front ends agree up to marks (the hypothesis `FrontRel` of the theorem above, proved) -/
theorem the_two_front_ends_agree_up_to_marks (opts : Opts) (ho : opts.optStatic = true) (fs : SrcFiles) (roots : List (List Char)) :
    FrontRel opts fs roots :=
  frontRel_proved opts ho fs roots

/-- the facts about the front end's result that the simulation uses (the other two hypotheses, proved) -/
theorem front_end_facts (opts : Opts) (fs : SrcFiles) (roots : List (List Char)) (st : Static) (nodes : List AstNode) (defs0 : Defs)
    (h : frontEnd opts fs roots = .ok (st, nodes, defs0)) :
    FrontOKS st nodes defs0 (markedByBoth st defs0) ∧ Uniq nodes ∧ NodesOK defs0 nodes :=
  ⟨frontEnd_frontOKS opts fs roots st nodes defs0 h, frontEnd_uniq opts fs roots st nodes defs0 h,
   frontEnd_nodesOK opts fs roots st nodes defs0 h⟩

/-- **C08, static switch — the statement of the property for the model, no hypothesis on the program**: for every
    program, every set of files and every budget of at least two, assembling with
    `--debug-no-optimize-static` fails with the same messages or succeeds with the same bits, spans and
    symbols as assembling without it.  (Budget 1 is finding F29; the matcher switch is
    `same_matches_of_index_complete` and finding F10.) -/
theorem C08_static_switch (opts : Opts) (fs : SrcFiles) (roots : List (List Char))
    (ho : opts.optStatic = true) (hmax : 2 ≤ opts.maxIter) :
    (assemble opts.staticOff fs roots).map AsmOk.core = (assemble opts fs roots).map AsmOk.core :=
  assemble_static_switch opts fs roots ho hmax

/-! non-vacuity: `ld {x} => 0x10 @ x`8`; `ld 5` is statically known, `ld lbl` is not (even if a
    statically known constant is called `x`: finding F30) -/
def ldRule : Rule :=
  { pattern := [], exactCount := 0, params := [("x", .unspecified)]
    expr := .bin .Concat (.lit (.int ⟨0x10, some 8⟩)) (.sliceShort (.lit (.int ⟨8, none⟩)) (.var 0 ["x"])) }
def ldDefs : Defs := { ruledefs := [⟨false, [ldRule]⟩], symbols := [some { known := true, value := .int ⟨1, none⟩ }] }
def ldDecls : Decls :=
  match (SymMgr.new "symbol").declare [] "x" 0 .constant with
  | .ok (_, m) => { symbols := m }
  | .error _ => {}

example : matchKnown ldDecls ldDefs [] 64 (.mk 0 0 [.expr (.lit (.int ⟨5, none⟩)) 0 0 []]) = true := by decide
example : matchKnown ldDecls ldDefs [] 64 (.mk 0 0 [.expr (.var 0 ["lbl"]) 0 0 []]) = false := by decide
example : matchKnown ldDecls ldDefs [] 64 (.mk 0 0 [.expr (.var 0 ["x"]) 0 0 []]) = true := by decide
example : staticallyKnown pureP (.bin .Add (.lit (.int ⟨1, none⟩)) (.call (.var 0 ["incbin"]) [.lit (.str "f".toList .utf8)])) = true := by decide
example : staticallyKnown pureP (.var 0 ["x"]) = false := by decide

end Casm.C08
