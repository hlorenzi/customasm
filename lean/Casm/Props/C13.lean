import Casm.Model.CharCounter
/-!
# C13 — diagnostics point at the fault (location arithmetic)

`lineColAtIndex` / `indexRangeOfLine` (the byte-index → line/column conversions behind
every printed `--> file:line:col`) against their specification, for every text —
multi-byte characters included — and every position on a character boundary.
-/
namespace Casm.C13

theorem utf8LenChar_pos (c : Char) : 0 < utf8LenChar c := by
  simp only [utf8LenChar, apply_ite (0 < ·), Nat.reduceLT, ite_self]

theorem utf8Len_eq_sum (cs : List Char) : utf8Len cs = (cs.map utf8LenChar).sum := by
  rw [List.sum_eq_foldl, List.foldl_map]; rfl

theorem utf8Len_cons (c : Char) (cs : List Char) : utf8Len (c :: cs) = utf8LenChar c + utf8Len cs := by
  simp only [utf8Len_eq_sum, List.map_cons, List.sum_cons]

theorem utf8Len_append (a b : List Char) : utf8Len (a ++ b) = utf8Len a + utf8Len b := by
  simp only [utf8Len_eq_sum, List.map_append, List.sum_append]

theorem utf8Len_nil : utf8Len [] = 0 := rfl

def newlines (p : List Char) : Nat := (p.filter (· == '\n')).length

/-- column after reading `p` starting at column `col` -/
def colAfter (p : List Char) (col : Nat) : Nat := p.foldl (fun k c => if c == '\n' then 0 else k + 1) col

theorem newlines_append (a b : List Char) : newlines (a ++ b) = newlines a + newlines b := by
  simp only [newlines, List.filter_append, List.length_append]

theorem newlines_none (b : List Char) (hb : ∀ c ∈ b, c ≠ '\n') : newlines b = 0 := by
  rw [newlines, List.length_eq_zero_iff, List.filter_eq_nil_iff]
  exact fun c hc h => hb c hc (eq_of_beq h)

theorem colAfter_append (a b : List Char) (col : Nat) : colAfter (a ++ b) col = colAfter b (colAfter a col) :=
  List.foldl_append

theorem colAfter_no_newline (b : List Char) (col : Nat) (hb : ∀ c ∈ b, c ≠ '\n') :
    colAfter b col = col + b.length := by
  induction b generalizing col with
  | nil => rfl
  | cons c cs ih =>
    have hc : (c == '\n') = false := beq_eq_false_iff_ne.2 (hb c List.mem_cons_self)
    rw [colAfter, List.foldl_cons, hc, if_neg Bool.false_ne_true, ← colAfter,
      ih _ (fun d hd => hb d (List.mem_cons_of_mem _ hd)), List.length_cons, Nat.add_assoc, Nat.add_comm 1]

theorem colAfter_ends_newline (a : List Char) (col : Nat) : colAfter (a ++ ['\n']) col = 0 := by
  rw [colAfter_append]; rfl

theorem lineColLoop_cons (index : Nat) (c : Char) (cs : List Char) (b line col : Nat)
    (h : b + utf8LenChar c ≤ index) :
    lineColLoop index (c :: cs) b line col =
      lineColLoop index cs (b + utf8LenChar c) (line + newlines [c]) (colAfter [c] col) := by
  have hb : ¬ b ≥ index := Nat.not_le.2 (Nat.lt_of_lt_of_le (Nat.lt_add_of_pos_right (utf8LenChar_pos c)) h)
  rw [lineColLoop, if_neg hb]
  by_cases hc : c = '\n'
  · subst hc; rfl
  · simp [newlines, colAfter, hc]

theorem lineColLoop_prefix (index : Nat) (p rest : List Char) (b0 line col : Nat)
    (h : b0 + utf8Len p ≤ index) :
    lineColLoop index (p ++ rest) b0 line col =
      lineColLoop index rest (b0 + utf8Len p) (line + newlines p) (colAfter p col) := by
  induction p generalizing b0 line col with
  | nil => rfl
  | cons c cs ih =>
    rw [utf8Len_cons, ← Nat.add_assoc] at h ⊢
    rw [List.cons_append, lineColLoop_cons _ _ _ _ _ _ (Nat.le_trans (Nat.le_add_right _ _) h), ih _ _ _ h,
      Nat.add_assoc line, ← newlines_append]
    rfl

theorem lineColLoop_stop (index : Nat) (rest : List Char) (b line col : Nat) (h : index ≤ b) :
    lineColLoop index rest b line col = (line, col) := by
  cases rest with
  | nil => rfl
  | cons c cs => rw [lineColLoop, if_pos h]

/-- **Line and column at any character boundary of any text**: the line breaks before the position, and the
    column that the characters before it leave. -/
theorem lineColAtIndex_boundary (pre post : List Char) :
    lineColAtIndex (pre ++ post) (utf8Len pre) = (newlines pre, colAfter pre 0) := by
  rw [lineColAtIndex, lineColLoop_prefix _ pre post 0 0 0 (Nat.le_of_eq (Nat.zero_add _)),
    lineColLoop_stop _ _ _ _ _ (Nat.le_of_eq (Nat.zero_add _).symm), Nat.zero_add]

/-- **Line and column are right for every text.**  If the text before the position
    consists of complete lines `a` (empty or ending in a line break) followed by `b`
    without line breaks, the reported (0-based) line is the number of line breaks before
    the position and the column is the number of *characters* of `b` — whatever
    multi-byte characters occur anywhere in the file. -/
theorem linecol_correct (a b post : List Char)
    (ha : a = [] ∨ ∃ a', a = a' ++ ['\n']) (hb : ∀ c ∈ b, c ≠ '\n') :
    lineColAtIndex (a ++ b ++ post) (utf8Len (a ++ b)) = (newlines a, b.length) := by
  have ha0 : colAfter a 0 = 0 := by
    rcases ha with rfl | ⟨a', rfl⟩
    · rfl
    · exact colAfter_ends_newline a' 0
  rw [lineColAtIndex_boundary, newlines_append, newlines_none b hb, colAfter_append, ha0,
    colAfter_no_newline b 0 hb, Nat.zero_add, Nat.add_zero]

/-- a position past the end of the text reports the end of the text -/
theorem linecol_past_end (s : List Char) (index : Nat) (h : utf8Len s ≤ index) :
    lineColAtIndex s index = (newlines s, colAfter s 0) := by
  have := lineColLoop_prefix index s [] 0 0 0 (by omega)
  rw [List.append_nil, Nat.zero_add, Nat.zero_add] at this
  exact this

theorem lineRangeLoop_skip (line total : Nat) (b rest : List Char) (bi lc lb : Nat)
    (hb : ∀ c ∈ b, c ≠ '\n') :
    lineRangeLoop line total (b ++ rest) bi lc lb = lineRangeLoop line total rest (bi + utf8Len b) lc lb := by
  induction b generalizing bi with
  | nil => rfl
  | cons c cs ih =>
    have hc : (c != '\n') = true := bne_iff_ne.2 (hb c List.mem_cons_self)
    rw [List.cons_append, lineRangeLoop, if_pos hc, ih _ (fun d hd => hb d (List.mem_cons_of_mem _ hd)),
      utf8Len_cons, Nat.add_assoc]

theorem lineRangeLoop_line (line total : Nat) (l rest : List Char) (bi lc lb : Nat)
    (hl : ∀ c ∈ l, c ≠ '\n') :
    lineRangeLoop line total (l ++ ['\n'] ++ rest) bi lc lb =
      if lc < line then
        lineRangeLoop line total rest (bi + utf8Len (l ++ ['\n'])) (lc + 1) (bi + utf8Len (l ++ ['\n']))
      else (lb, bi + utf8Len (l ++ ['\n'])) := by
  rw [List.append_assoc, lineRangeLoop_skip _ _ l _ _ _ _ hl, utf8Len_append, ← Nat.add_assoc]
  rfl

/-- entered at the start of a line (`lb = bi`) with `k` more lines to pass -/
theorem lineRangeLoop_lines (line total : Nat) (ls : List (List Char)) (rest : List Char) (k bi lc : Nat)
    (hls : ∀ l ∈ ls, ∀ c ∈ l, c ≠ '\n') (hk : k < ls.length) (hline : line = lc + k) :
    lineRangeLoop line total ((ls.flatMap fun l => l ++ ['\n']) ++ rest) bi lc bi =
      (bi + utf8Len ((ls.take k).flatMap fun l => l ++ ['\n']),
       bi + utf8Len ((ls.take (k + 1)).flatMap fun l => l ++ ['\n'])) := by
  induction ls generalizing k bi lc with
  | nil => cases hk
  | cons l ls ih =>
    rw [List.flatMap_cons, List.append_assoc, lineRangeLoop_line _ _ l _ _ _ _ (hls l List.mem_cons_self)]
    subst hline
    cases k with
    | zero => rw [Nat.add_zero, if_neg (Nat.lt_irrefl lc)]; simp [utf8Len_nil]
    | succ k =>
      rw [if_pos (Nat.lt_add_of_pos_right k.succ_pos),
        ih k _ _ (fun m hm => hls m (List.mem_cons_of_mem _ hm)) (Nat.lt_of_succ_lt_succ hk)
          (Nat.add_right_comm lc k 1)]
      simp only [List.take_succ_cons, List.flatMap_cons, utf8Len_append, Nat.add_assoc]

/-- **The byte range of line `k`** (0-based) of a text made of `ls.length` complete lines
    followed by a last line without line break: it starts right after the `k`-th line break
    and ends right after the next one (or at the end of the text). -/
theorem line_range_correct (ls : List (List Char)) (last : List Char) (k : Nat)
    (hls : ∀ l ∈ ls, ∀ c ∈ l, c ≠ '\n') (hlast : ∀ c ∈ last, c ≠ '\n') (hk : k < ls.length) :
    indexRangeOfLine ((ls.flatMap fun l => l ++ ['\n']) ++ last) k =
      (utf8Len ((ls.take k).flatMap fun l => l ++ ['\n']),
       utf8Len ((ls.take (k + 1)).flatMap fun l => l ++ ['\n'])) := by
  rw [indexRangeOfLine, lineRangeLoop_lines k _ ls last k 0 0 hls hk (Nat.zero_add k).symm,
    Nat.zero_add, Nat.zero_add]

/-- joining two spans gives their hull -/
theorem join_hull (a0 a1 b0 b1 : Nat) :
    spanJoin (some (a0, a1)) (some (b0, b1)) = some (min a0 b0, max a1 b1) := rfl

theorem join_dummy (a : Option (Nat × Nat)) : spanJoin a none = a ∧ spanJoin none a = a := by
  cases a <;> exact ⟨rfl, rfl⟩

/-- the fallback `Error` token spans one whole character (extracted from token.rs) -/
theorem error_token_is_one_character : Gen.errorTokenLen = none := rfl

example : lineColAtIndex "é\nxé y".toList 6 = (1, 2) := by decide +kernel
example : indexRangeOfLine "é\nxé y\nz".toList 1 = (3, 9) := by decide +kernel

/-! ## tokens partition the text -/

theorem tokenizeAux_partition (fuel : Nat) (s : List Char) (acc : List Tok) (h : s.length ≤ fuel) :
    (tokenizeAux fuel s acc).flatMap (·.text) = (acc.reverse).flatMap (·.text) ++ s := by
  fun_induction tokenizeAux fuel s acc with
  | case1 s acc => rw [List.eq_nil_of_length_eq_zero (Nat.le_zero.1 h), List.append_nil]
  | case2 fuel acc _ => rw [List.append_nil]
  | case3 fuel s acc _ k n _ n' ih =>
    -- a token is never empty, so the fuel lasts
    have hn : n' ≠ 0 := by
      intro h0
      by_cases hz : n = 0 <;> simp [n', hz] at h0
    rw [ih (by rw [List.length_drop]; omega), List.reverse_cons, List.flatMap_append, List.append_assoc]
    simp only [List.flatMap_cons, List.flatMap_nil, List.append_nil, List.take_append_drop]

/-- **Every character of a text belongs to exactly one token, in order**: the texts of the
    tokens, concatenated, are the text.  (So every token span, and every span joined from token
    spans, starts and ends on a character boundary of the source.) -/
theorem tokens_partition_text (s : List Char) : (tokenize s).flatMap (·.text) = s :=
  tokenizeAux_partition s.length s [] (Nat.le_refl _)

example : (tokenize "ld é, 1 ; c".toList).map (·.text.length) = [2, 1, 1, 1, 1, 1, 1, 3] := by decide +kernel

end Casm.C13
