import Casm.Proofs.ModeMono
import Casm.Proofs.Hygiene
/-!
# C17 — asm blocks and user functions mean what their expansion means

About the resolver's evaluation environment `Casm.mkEnv` (model of `eval_fn`, `eval_asm`).

* `fn_call_is_body_with_bound_params` — a call of a user function is its body evaluated in a
  fresh context holding exactly the parameters bound to the argument values (no caller
  locals, no token substitutions), one level deeper; `fn_arity_checked`.
* `fn_depth_limit`, `asm_depth_limit` — beyond `EVAL_RECURSION_DEPTH_MAX` nested calls/blocks the
  result is the recursion error, never a value.
* `asm_label_is_address` — a label inside a block is bound to the address at its own position
  (start of the block plus the sizes of the instructions before it).
* `asm_instr_appends` — each inner instruction contributes its chosen encoding, appended to
  the bits so far, and advances the position by its size: the block is the concatenation of
  its instructions' encodings at consecutive addresses.

* `asm_loop_unfolds`, `asm_block_guesses_in_a_guessing_pass` — the passes of a block's own loop are
  strict only when the enclosing pass is the last one (finding F39, repaired);
  `asm_block_strict_result_is_the_guessing_result` — strictness only adds errors.

* `parameter_is_substituted_as_text`, `local_is_substituted_by_its_hygienic_name`,
  `by_value_local_reaches_the_block` — "arguments substituted textually or by value as written";
  `block_sees_only_its_own_productions_locals` — the locals visible inside a block are exactly the
  renamed locals of the production that contains it (the cause of finding F40, open).

The equality with the hand-inlined program is established by the search (implementation on
both programs) and the model correspondence.
-/
namespace Casm.C17

def bindParams (params : List String) (args : List Value) : ECtx → ECtx := fun ectx =>
  { locals := (params.zip args).foldl (fun l p => l.set p.1 p.2) [], substs := [], depth := ectx.depth + 1 }

/-- **a function call equals its body with the arguments bound to the parameters** -/
theorem fn_call_is_body_with_bound_params (st : Static) (defs : Defs) (fuel : Nat) (ctx : RCtx) (idx : Nat) (args : List Value) (ectx : ECtx)
    (hd : ectx.depth < Gen.EVAL_RECURSION_DEPTH_MAX)
    (ha : args.length = (defs.fns.getD idx default).params.length) :
    (mkEnv st defs (fuel + 1) ctx).fn (.fn idx) args ectx =
      (eval (mkEnv st defs fuel ctx) (bindParams (defs.fns.getD idx default).params args ectx) (defs.fns.getD idx default).body).map (·.1) := by
  rw [mkEnv_fn, if_neg (Nat.not_le.mpr hd), ha, bne_self_eq_false, if_neg Bool.false_ne_true]
  rfl

theorem fn_arity_checked (st : Static) (defs : Defs) (fuel : Nat) (ctx : RCtx) (idx : Nat) (args : List Value) (ectx : ECtx)
    (hd : ectx.depth < Gen.EVAL_RECURSION_DEPTH_MAX)
    (ha : args.length ≠ (defs.fns.getD idx default).params.length) :
    (mkEnv st defs (fuel + 1) ctx).fn (.fn idx) args ectx = .error (argCountErr (defs.fns.getD idx default).params.length args.length) := by
  rw [mkEnv_fn, if_neg (Nat.not_le.mpr hd), if_pos (bne_iff_ne.mpr ha)]

/-- **recursion beyond the depth limit is an error** (functions) -/
theorem fn_depth_limit (st : Static) (defs : Defs) (fuel : Nat) (ctx : RCtx) (idx : Nat) (args : List Value) (ectx : ECtx)
    (hd : Gen.EVAL_RECURSION_DEPTH_MAX ≤ ectx.depth) :
    (mkEnv st defs (fuel + 1) ctx).fn (.fn idx) args ectx = .error recursionErr := by
  rw [mkEnv_fn, if_pos hd]

/-- **recursion beyond the depth limit is an error** (asm blocks) -/
theorem asm_depth_limit (st : Static) (defs : Defs) (fuel : Nat) (ctx : RCtx) (text : List Char) (ectx : ECtx)
    (hd : Gen.EVAL_RECURSION_DEPTH_MAX ≤ ectx.depth) :
    (mkEnv st defs (fuel + 2) ctx).asm text ectx = .error recursionErr := by
  rw [mkEnv_asm, evalAsm, if_pos hd]

/-- every nested block or call runs one level deeper -/
theorem hygienize_deepens (c : ECtx) : (hygienize c).depth = c.depth + 1 := rfl
theorem deepened_deepens (c : ECtx) : c.deepened.depth = c.depth + 1 := rfl

/-- **a block label is bound to the address at its own position** — and in the strict pass that position has to be a whole
    address, as for a label written in place (finding F52, repaired: the address was always asked for with guessing allowed) -/
theorem asm_label_is_address (st : Static) (defs : Defs) (fuel : Nat) (ctx : RCtx) (level : Nat) (name : String) (kind : SymKind)
    (ne : Bool) (ref : Option Nat) (rest : List AstNode) (ectx : ECtx) (labels : List (String × Value)) (cur : Nat) (result : BI)
    (unstable : Bool) (a : Int) (ha : evalAddress defs { ctx with cur := cur } ({ ctx with cur := cur } : RCtx).canGuess = .ok a) :
    ∃ u, asmOnce st defs (fuel + 1) ctx (.symbol level name kind ne ref :: rest) ectx labels cur result unstable =
      asmOnce st defs fuel ctx rest ectx ((name, .int ⟨a, none⟩) :: labels.filter (·.1 != name)) cur result u := by
  simp only [asmOnce, ha]
  exact ⟨_, rfl⟩

/-- **an inner instruction appends its encoding and advances the position by its size** -/
theorem asm_instr_appends (st : Static) (defs : Defs) (fuel : Nat) (ctx : RCtx) (src : List Char) (ref : Option Nat)
    (rest : List AstNode) (ectx : ECtx) (labels : List (String × Value)) (cur : Nat) (result : BI) (unstable : Bool)
    (substs : List (Nat × Nat × String)) (excerpt : List Char) (encs : List (Nat × BI)) (rep : List String)
    (hs : parseSubsts (src.length + 1) src 0 [] = .ok substs)
    (hp : performSubsts src substs ectx = .ok excerpt)
    (hm : (matchInstr st.opts.optMatcher defs.ruledefs excerpt).isEmpty = false)
    (he : resolveEncoding st defs fuel { ctx with cur := cur } (matchInstr st.opts.optMatcher defs.ruledefs excerpt)
            (labels.foldl (fun c p => c.setLocal p.1 p.2) (hygienize ectx)) = .ok (some encs, rep)) :
    asmOnce st defs (fuel + 1) ctx (.instr src ref :: rest) ectx labels cur result unstable =
      asmOnce st defs fuel ctx rest ectx labels (cur + ((encs.headD (0, default)).2.size.getD 0))
        (result.concat (result.size.getD 0) 0 (encs.headD (0, default)).2 ((encs.headD (0, default)).2.size.getD 0) 0) unstable := by
  simp only [asmOnce, hs, hp, hm, Bool.false_eq_true, if_false, he]

/-- the passes of a block's own loop, spelled out: pass `it` of `budget` runs in the context
    `{ first := it == 1, last := ctx.last && it == budget }`, the confirming pass in `{ first := false, last := ctx.last }` -/
theorem asm_loop_unfolds (st : Static) (defs : Defs) (fuel : Nat) (ctx : RCtx) (nodes : List AstNode) (ectx : ECtx)
    (labels : List (String × Value)) (budget it : Nat) :
    asmIterate st defs (fuel + 1) ctx nodes ectx labels budget it =
      (let finish := fun (labels : List (String × Value)) =>
        match asmOnce st defs fuel { ctx with first := false, last := ctx.last } nodes ectx labels ctx.cur (⟨0, some 0⟩) false with
        | .error e => (.error e : Except String Value)
        | .ok (v, unstable, _) =>
          if !unstable then .ok v
          else if ctx.canGuess then .ok .unknown
          else .error "`asm` block did not converge"
      if it > budget then finish labels
      else
        match asmOnce st defs fuel { ctx with first := it == 1, last := ctx.last && it == budget } nodes ectx labels ctx.cur (⟨0, some 0⟩) false with
        | .error e => .error e
        | .ok (_, unstable, labels) =>
          if !unstable then finish labels
          else asmIterate st defs fuel ctx nodes ectx labels budget (it + 1)) := by
  rw [asmIterate]
  rfl

/-- **in a guessing pass of the enclosing resolution every pass of a block guesses too** (finding F39:
    the code ran the last pass of the block's loop and the confirming pass strictly whatever the
    enclosing pass, so a block naming a label declared further down failed in the first outer pass) -/
theorem asm_block_guesses_in_a_guessing_pass (ctx : RCtx) (hl : ctx.last = false) (budget it : Nat) :
    ({ ctx with first := it == 1, last := ctx.last && it == budget } : RCtx).canGuess = true ∧
    ({ ctx with first := false, last := ctx.last } : RCtx).canGuess = true := by
  simp [RCtx.canGuess, hl]

/-- **what a block yields in the strict pass it yields in a guessing pass**: strictness only adds errors -/
theorem asm_block_strict_result_is_the_guessing_result (st : Static) (defs : Defs) (fuel : Nat) (ctx : RCtx) (text : List Char)
    (ectx : ECtx) (v : Value) (h : evalAsm st defs fuel ctx text ectx = .ok v) :
    evalAsm st defs fuel (guessOf ctx) text ectx = .ok v :=
  evalAsm_mono st defs fuel ctx text ectx v h

/-- **a parameter written `{p}` is replaced by the text of the argument** -/
theorem parameter_is_substituted_as_text (c : ECtx) (n : String) (p : String × List Char)
    (h : c.substs.find? (·.1 == n) = some p) : tokenSubst c n = some p.2 := by
  unfold tokenSubst; rw [h]

/-- **a local of the production written `{v}` is passed by value**: the text put in its place is its
    hygienic name `__v` … -/
theorem local_is_substituted_by_its_hygienic_name (c : ECtx) (n : String) (v : Value)
    (h1 : c.substs.find? (·.1 == n) = none) (h2 : c.locals.get n = some v) :
    tokenSubst c n = some (hygienizeName n).toList := by
  unfold tokenSubst; rw [h1]; simp [h2]

/-- … **and that name is bound, inside the block, to the local's value** -/
theorem by_value_local_reaches_the_block (c : ECtx) (m : String) (hm : m.startsWith "__" = false) :
    (hygienize c).locals.get (hygienizeName m) = c.locals.get m := by
  rw [hygienize_locals]; exact renLocals_get c.locals m hm

/-- **a block sees exactly the un-prefixed locals of its own production, renamed** — nothing else.  This is
    the cause of finding F40: a name that was hygienised one level up (`__y`, standing for a local of a
    *calling* block and passed on as the text of an argument) is, one level down, either unbound or —
    by `by_value_local_reaches_the_block` applied to the callee — bound to the callee's own `y`. -/
theorem block_sees_only_its_own_productions_locals (c : ECtx) (k : String) (v : Value)
    (h : (hygienize c).locals.get k = some v) :
    ∃ m, k = hygienizeName m ∧ m.startsWith "__" = false ∧ c.locals.get m = some v := by
  rw [hygienize_locals] at h; exact renLocals_get_some c.locals k v h

/-- the witness of F40 at the level of contexts: the callee `test2 {a}, {y}` called as `test2 {y}, 5` from a
    production whose `y` is 0x11 holds `a = 0x11` (text `__y`) and `y = 5`; inside its block `__y` is 5 -/
example : let callee : ECtx := (({} : ECtx).setLocal "a" (.int ⟨0x11, none⟩)).setLocal "y" (.int ⟨5, none⟩)
    (hygienize callee).locals.get (hygienizeName "y") = some (.int ⟨5, none⟩) := by
  intro callee
  rw [by_value_local_reaches_the_block callee "y" (by decide)]
  rfl

/-! ## where a block ends (finding F64, repaired) -/

/-- **a comment or a string literal inside a block is stepped over as a whole**: a brace in it neither opens nor closes
    anything, and its text stays part of the block -/
theorem block_scan_skips_comments_and_strings (fuel : Nat) (c : Char) (cs : List Char) (nesting : Nat) (acc : List Char)
    (hc : c = ';' ∨ c = '"')
    (hk : (decideNextToken (c :: cs)).1 = .Comment ∨ (decideNextToken (c :: cs)).1 = .String) :
    untilClosingBraceAux (fuel + 1) (c :: cs) nesting acc =
      (let n := (decideNextToken (c :: cs)).2
       let n := if n == 0 then 1 else n
       untilClosingBraceAux fuel ((c :: cs).drop n) nesting (((c :: cs).take n).reverse ++ acc)) := by
  rw [untilClosingBraceAux]
  have h1 : (c == ';' || c == '"') = true := by rcases hc with rfl | rfl <;> decide
  have h2 : ((decideNextToken (c :: cs)).1 == .Comment || (decideNextToken (c :: cs)).1 == .String) = true := by
    rcases hk with h | h <;> simp [h]
  simp only [h1, h2, Bool.and_self, if_true]

/-- outside comments and strings, the block ends at the first closing brace at nesting depth 0 -/
theorem block_scan_ends_at_closing_brace (fuel : Nat) (cs : List Char) (acc : List Char) :
    untilClosingBraceAux (fuel + 1) ('}' :: cs) 0 acc = (acc.reverse, '}' :: cs) := by
  rw [untilClosingBraceAux]
  rfl

end Casm.C17
