import Casm.Model.FileNav
/-!
# C14 — file inclusion is relative, confined, acyclic and once-only where asked

About `Casm.Model.FileNav`.

* navigation: `navigate_no_dotdot` — no component of a navigated path is `..`; `escape_rejected`, `escape_rejected_deep` —
  one more `..` than there are directories is an error; `navigate_means_the_path_partial` — the navigated name is what the
  path means (`walkPath`), for current-file names without empty and `.` components (the excluded point is finding F69);
* inclusion: `once_at_most_once`, `cycle_is_error`, `self_inclusion_error`, `splice_at_point`, `markers_in_order`;
* the ranges of `incbin`, `incbinstr` and `inchexstr`: `incbin_exact`, `incbin_rejects_past_end`, `incbin_start_past_end`,
  `incbin_whole_file`, and through `incstrRange_eq_incbinRange` the same for digits.
-/
namespace Casm.C14

def dotdot : List Char := "..".toList

/-! ## navigation -/

/-- popping past the start is an error: a leading `..` (after the directory of a
    top-level file) is rejected -/
theorem escape_rejected (rest : List (List Char)) :
    collapseDots (dotdot :: rest) [] = .error .outOfProject := by
  simp [collapseDots, dotdot]

theorem collapseDots_pop (a : List Char) (rest acc : List (List Char)) :
    collapseDots (dotdot :: rest) (a :: acc) = collapseDots rest acc := by
  simp [collapseDots, dotdot]

theorem collapseDots_push {c : List Char} (rest acc : List (List Char)) (h : c ≠ dotdot) :
    collapseDots (c :: rest) acc = collapseDots rest (c :: acc) := by
  simp only [collapseDots, beq_iff_eq]; exact if_neg h

/-- the stack discipline of the `..` loop never leaves a `..` in the result -/
theorem collapse_no_dotdot (comps acc out : List (List Char))
    (hacc : ∀ c ∈ acc, c ≠ dotdot) (h : collapseDots comps acc = .ok out) : ∀ c ∈ out, c ≠ dotdot := by
  fun_induction collapseDots comps acc with
  | case1 acc =>
    cases h
    exact fun c hc => hacc c (List.mem_reverse.1 hc)
  | case2 c rest hc => cases h
  | case3 c rest hc a acc' ih => exact ih (fun x hx => hacc x (List.mem_cons_of_mem _ hx)) h
  | case4 c rest acc hc ih => exact ih (List.forall_mem_cons.2 ⟨mt beq_iff_eq.2 hc, hacc⟩) h

theorem collapseDots_names (dirs rest acc : List (List Char)) (hd : ∀ d ∈ dirs, d ≠ dotdot) :
    collapseDots (dirs ++ rest) acc = collapseDots rest (dirs.reverse ++ acc) := by
  induction dirs generalizing acc with
  | nil => rfl
  | cons d ds ih =>
    rw [List.cons_append, collapseDots_push _ _ (hd d List.mem_cons_self),
      ih _ (fun x hx => hd x (List.mem_cons_of_mem _ hx)), List.reverse_cons, List.append_assoc]
    rfl

theorem collapseDots_pops (n : Nat) (rest acc : List (List Char)) (h : acc.length < n) :
    collapseDots (List.replicate n dotdot ++ rest) acc = .error .outOfProject := by
  induction n generalizing acc with
  | zero => cases h
  | succ m ih =>
    rw [List.replicate_succ, List.cons_append]
    cases acc with
    | nil => exact escape_rejected _
    | cons a acc => rw [collapseDots_pop]; exact ih acc (Nat.lt_of_succ_lt_succ h)

/-- more `..` than directories available, anywhere in the path, is rejected -/
theorem escape_rejected_deep (dirs : List (List Char)) (rest : List (List Char))
    (hd : ∀ d ∈ dirs, d ≠ dotdot) :
    collapseDots (dirs ++ List.replicate (dirs.length + 1) dotdot ++ rest) [] = .error .outOfProject := by
  rw [List.append_assoc, collapseDots_names _ _ _ hd]
  exact collapseDots_pops _ _ _ (by simp)

/-- **Confinement.** Whatever the current file and the relative name (not `<std>/`),
    a successful navigation yields a path none of whose components is `..`: the result
    cannot climb out of the directory the components are interpreted in. -/
theorem navigate_no_dotdot (cur rel : List Char) (comps : List (List Char))
    (h : navComps cur rel = .ok comps) : ∀ c ∈ comps, c ≠ dotdot := by
  unfold navComps at h
  simp only at h
  split at h
  · cases h
  · exact collapse_no_dotdot _ [] comps (fun c hc => by cases hc) h

/-- the path returned is exactly those components joined with `/` -/
theorem navigate_is_join (cur rel p : List Char) (hstd : isStdPath rel = false)
    (h : filenameNavigate cur rel = .ok p) :
    ∃ comps, navComps cur rel = .ok comps ∧ p = joinWith ['/'] comps ∧ comps ≠ [] ∧ p ≠ [] := by
  rw [filenameNavigate, hstd, if_neg Bool.false_ne_true] at h
  split at h
  · cases h
  next comps hc =>
    dsimp only at h
    -- the name is returned only if none of the four tests rejects it; the first two are the claims
    split at h
    · cases h
    next hn =>
      cases h
      simp only [Bool.or_eq_true, not_or, List.isEmpty_iff, beq_iff_eq] at hn
      exact ⟨comps, hc, rfl, hn.1.1.1, hn.1.1.2⟩

theorem std_passthrough (cur rel : List Char) (h : isStdPath rel = true) :
    filenameNavigate cur rel = .ok rel := by
  rw [filenameNavigate, if_pos h]

theorem fixSlashes_idem (s : List Char) : fixSlashes (fixSlashes s) = fixSlashes s := by
  simp only [fixSlashes, List.map_map]
  apply List.map_congr_left
  intro c _
  by_cases h : c = '\\' <;> simp [h]

/-- both slash styles are the same path -/
theorem backslash_is_slash (cur rel : List Char) :
    navComps cur rel = navComps (fixSlashes cur) (fixSlashes rel) := by
  simp only [navComps, fixSlashes_idem]

/-! ### what the navigated path means (the statement: relative, confined) - and where that fails (finding F69) -/

/-- what a sequence of path components *means*, read from the directory `st` (innermost name first): an empty component and
    `.` stay, `..` goes up (`none`: above the directory the walk started in), a name goes down -/
def walkPath : List (List Char) → List (List Char) → Option (List (List Char))
  | [], st => some st
  | c :: cs, st =>
    if c.isEmpty || c == ['.'] then walkPath cs st
    else if c == ['.', '.'] then
      match st with
      | [] => none
      | _ :: t => walkPath cs t
    else walkPath cs (c :: st)

def cleanComp (c : List Char) : Bool := !c.isEmpty && c != ['.']

theorem walkPath_cons (c : List Char) (cs st : List (List Char)) :
    walkPath (c :: cs) st =
      if c.isEmpty || c == ['.'] then walkPath cs st
      else if c == ['.', '.'] then (match st with | [] => none | _ :: t => walkPath cs t)
      else walkPath cs (c :: st) := by
  rw [walkPath.eq_def]

theorem clean_iff (c : List Char) : cleanComp c = true ↔ (c.isEmpty || c == ['.']) = false := by
  rw [cleanComp, bne, ← Bool.not_or, Bool.not_eq_true']

theorem walkPath_filter (cs st : List (List Char)) : walkPath (cs.filter cleanComp) st = walkPath cs st := by
  induction cs generalizing st with
  | nil => rfl
  | cons c cs ih =>
    rw [walkPath_cons c cs]
    by_cases hc : cleanComp c = true
    · rw [List.filter_cons_of_pos hc, walkPath_cons]
      simp only [ih]
    · rw [List.filter_cons_of_neg hc, if_pos ((Bool.not_eq_false _).mp (mt (clean_iff c).2 hc))]
      exact ih st

theorem walkPath_append (a b st : List (List Char)) :
    walkPath (a ++ b) st = (walkPath a st).bind (walkPath b) := by
  induction a generalizing st with
  | nil => rfl
  | cons c a ih =>
    rw [List.cons_append, walkPath_cons, walkPath_cons c a]
    cases st <;> simp only [ih, apply_ite (Option.bind · (walkPath b)), Option.bind_none]

/-- on components none of which is empty or `.`, the collapsing loop computes the meaning of the path -/
theorem collapse_is_walk (comps acc : List (List Char)) (hc : ∀ c ∈ comps, cleanComp c = true) :
    collapseDots comps acc = match walkPath comps acc with
      | some st => .ok st.reverse
      | none => .error .outOfProject := by
  induction comps generalizing acc with
  | nil => rfl
  | cons c rest ih =>
    have h' := (clean_iff c).1 (hc c List.mem_cons_self)
    have ihr := fun acc => ih acc (fun x hx => hc x (List.mem_cons_of_mem _ hx))
    rw [collapseDots.eq_def, walkPath_cons]
    simp only [h', Bool.false_eq_true, if_false]
    -- written alike, the two sides branch on the same test
    rw [show "..".toList = ['.', '.'] from rfl]
    split
    · cases acc with
      | nil => rfl
      | cons x t => exact ihr t
    · exact ihr _

/-- **the navigated name is what the path `directory of the current file / relative name` means** - for a current file
    whose own name is written without empty and `.` components (`sub/main.asm`, not `./main.asm`; every name the assembler
    itself produces is of that form): the components of the result are the directory stack of the walk, and a walk that
    leaves the starting directory is exactly the error "cannot navigate out of project directory".
    PARTIAL: the hypothesis excludes root names such as `./main.asm` - see the example below (finding F69). -/
theorem navigate_means_the_path_partial (cur rel : List Char)
    (hcur : ∀ c ∈ (splitOnChar '/' (fixSlashes cur)).dropLast, cleanComp c = true)
    (hrel : (fixSlashes rel).head? ≠ some '/')
    (hne : ((splitOnChar '/' (fixSlashes rel)).filter cleanComp).isEmpty = false) :
    navComps cur rel = match walkPath ((splitOnChar '/' (fixSlashes cur)).dropLast ++ splitOnChar '/' (fixSlashes rel)) [] with
      | some st => .ok st.reverse
      | none => .error .outOfProject := by
  have hb : ((fixSlashes rel).head? == some '/') = false := beq_eq_false_iff_ne.2 hrel
  have hf : (fun s : List Char => !s.isEmpty && s != ".".toList) = cleanComp := rfl
  unfold navComps
  simp only [hf, hne, hb, Bool.false_eq_true, if_false]
  rw [collapse_is_walk _ _ (List.forall_mem_append.2 ⟨hcur, fun c h => (List.mem_filter.1 h).2⟩),
    walkPath_append, walkPath_append, funext (walkPath_filter _)]

/-- the premises are met by an ordinary case, and the conclusion is not vacuous -/
example : (navComps "src/a/main.asm".toList "../b/./x.asm".toList).toOption = some ["src".toList, "b".toList, "x.asm".toList] := by
  decide +kernel

/-- **F69: the excluded point.**  With the root written `./main.asm`, the path `./../x.asm` leaves the working directory
    (`walkPath` = none), yet navigation succeeds and names `x.asm` inside it: the `.` was popped in place of a directory -/
example : walkPath ((splitOnChar '/' "./main.asm".toList).dropLast ++ splitOnChar '/' "../x.asm".toList) [] = none ∧
    (navComps "./main.asm".toList "../x.asm".toList).toOption = some ["x.asm".toList] := by decide +kernel

def navShow (r : Except NavErr (List Char)) : String :=
  match r with
  | .ok p => "ok " ++ String.ofList p
  | .error .invalidFilename => "invalid"
  | .error .outOfProject => "out"

example : navShow (filenameNavigate "src/a/main.asm".toList "../b/./x.asm".toList) = "ok src/b/x.asm" := by decide +kernel
example : navShow (filenameNavigate "main.asm".toList "../x.asm".toList) = "out" := by decide +kernel
example : navShow (filenameNavigate "a/main.asm".toList "b\\..\\..\\..\\x".toList) = "out" := by decide +kernel
example : navShow (filenameNavigate "a/main.asm".toList "/x.asm".toList) = "ok x.asm" := by decide +kernel

/-! ## inclusion -/

/-- a file already marked `#once` contributes nothing the second time -/
theorem once_at_most_once (fs : Files) (fuel : Nat) (name : List Char) (seen once : List (List Char))
    (h : once.contains name = true) : expandFile fs (fuel + 1) name seen once = .ok ([], once) := by
  rw [expandFile, if_pos h]

theorem expandFile_ops {fs : Files} {name : List Char} {ops : List FOp} {once : List (List Char)} (fuel : Nat)
    (seen : List (List Char)) (h : once.contains name = false) (hget : fs.get name = some ops) :
    expandFile fs (fuel + 1) name seen once =
      expandOps fs fuel name ops seen (if ops.contains .once then name :: once else once) [] := by
  rw [expandFile, h, if_neg Bool.false_ne_true, hget]

theorem expandOps_include {name rel inc : List Char} (fs : Files) (fuel : Nat) (rest : List FOp)
    (seen once : List (List Char)) (acc : List Nat) (hnav : filenameNavigate name rel = .ok inc) :
    expandOps fs (fuel + 1) name (.include rel :: rest) seen once acc =
      if seen.contains inc then .error .recursive
      else match expandFile fs fuel inc (inc :: seen) once with
        | .error e => .error e
        | .ok (ms, once') => expandOps fs fuel name rest seen once' (ms.reverse ++ acc) := by
  rw [expandOps, hnav]
  rfl

/-- a file that is on the inclusion stack is reported, not expanded again -/
theorem cycle_is_error (fs : Files) (fuel : Nat) (name rel inc : List Char) (rest : List FOp)
    (seen once : List (List Char)) (acc : List Nat)
    (hnav : filenameNavigate name rel = .ok inc) (hseen : seen.contains inc = true) :
    expandOps fs (fuel + 1) name (.include rel :: rest) seen once acc = .error .recursive := by
  rw [expandOps_include _ _ _ _ _ _ hnav, if_pos hseen]

/-- an included file is spliced exactly at the point of inclusion -/
theorem splice_at_point (fs : Files) (fuel : Nat) (name rel inc : List Char) (rest : List FOp)
    (seen once once' : List (List Char)) (acc ms : List Nat)
    (hnav : filenameNavigate name rel = .ok inc) (hseen : seen.contains inc = false)
    (hinner : expandFile fs fuel inc (inc :: seen) once = .ok (ms, once')) :
    expandOps fs (fuel + 1) name (.include rel :: rest) seen once acc =
      expandOps fs fuel name rest seen once' (ms.reverse ++ acc) := by
  rw [expandOps_include _ _ _ _ _ _ hnav, hseen, if_neg Bool.false_ne_true, hinner]

/-- a file including itself is an error (second level: the root is pushed when first included) -/
theorem self_inclusion_error (fuel : Nat) (name : List Char) (hn : filenameNavigate name name = .ok name) :
    expandFile [(name, [.include name])] (fuel + 4) name [] [] = .error .recursive := by
  have hget : Files.get [(name, [FOp.include name])] name = some [.include name] := by
    simp [Files.get]
  -- the file is opened, opened again from its own `#include`, and there found on the stack
  rw [expandFile_ops _ _ rfl hget, expandOps_include _ _ _ _ _ _ hn, if_neg (by simp),
    expandFile_ops _ _ rfl hget, cycle_is_error (hnav := hn) (hseen := by simp)]

/-- markers are spliced in order -/
theorem markers_in_order (fs : Files) (name : List Char) (ks : List Nat) (seen once : List (List Char))
    (acc : List Nat) (fuel : Nat) (hf : ks.length < fuel) :
    expandOps fs fuel name (ks.map .marker) seen once acc = .ok (acc.reverse ++ ks, once) := by
  induction ks generalizing acc fuel with
  | nil =>
    cases fuel with
    | zero => cases hf
    | succ f => rw [List.map_nil, expandOps, List.append_nil]
  | cons k ks ih =>
    cases fuel with
    | zero => cases hf
    | succ f =>
      rw [List.map_cons, expandOps, ih (k :: acc) f (Nat.lt_of_succ_lt_succ hf), List.reverse_cons,
        List.append_assoc]
      rfl

/-! ## `incbin` / `incbinstr` / `inchexstr` ranges -/

theorem incbinRange_three (bytes : List Nat) (start size : Nat) :
    incbinRange bytes 3 start size =
      if start ≥ bytes.length then .error .startsAfterEof
      else if start + size > bytes.length then .error .endsAfterEof
      else .ok ((bytes.drop start).take size) := by
  simp [incbinRange]

/-- one range logic serves the bytes of `incbin` and the digits of `incbinstr` / `inchexstr` -/
theorem incstrRange_eq_incbinRange : incstrRange = incbinRange := rfl

theorem incbin_exact (bytes : List Nat) (start size : Nat) (h1 : start < bytes.length)
    (h2 : start + size ≤ bytes.length) :
    incbinRange bytes 3 start size = .ok ((bytes.drop start).take size) := by
  rw [incbinRange_three, if_neg (Nat.not_le.2 h1), if_neg (Nat.not_lt.2 h2)]

theorem incbin_rejects_past_end (bytes : List Nat) (start size : Nat)
    (h : start + size > bytes.length) : ∃ e, incbinRange bytes 3 start size = .error e := by
  rw [incbinRange_three, if_pos h]
  split <;> exact ⟨_, rfl⟩

theorem incbin_start_past_end (bytes : List Nat) (args start size : Nat) (ha : 2 ≤ args)
    (h : start ≥ bytes.length) : incbinRange bytes args start size = .error .startsAfterEof := by
  have h2 : ¬ args < 2 := Nat.not_lt.2 ha
  simp only [incbinRange, ge_iff_le, ha, h2, h, and_false, if_true, if_false]

theorem incbin_whole_file (bytes : List Nat) (s z : Nat) : incbinRange bytes 1 s z = .ok bytes := by
  -- the empty file is let through before "starts after the end" is asked
  cases bytes with
  | nil => rfl
  | cons b bs => simp [incbinRange]

theorem incstr_exact (digits : List Nat) (start size : Nat) (h1 : start < digits.length)
    (h2 : start + size ≤ digits.length) :
    incstrRange digits 3 start size = .ok ((digits.drop start).take size) := by
  rw [incstrRange_eq_incbinRange]; exact incbin_exact digits start size h1 h2

theorem incstr_rejects_past_end (digits : List Nat) (start size : Nat)
    (h : start + size > digits.length) : ∃ e, incstrRange digits 3 start size = .error e := by
  rw [incstrRange_eq_incbinRange]; exact incbin_rejects_past_end digits start size h

end Casm.C14
