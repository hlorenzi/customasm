import Casm.Proofs.ItemStep
import Casm.Proofs.IterModel
import Casm.Proofs.ResolveLemmas
import Casm.Proofs.ExprLemmas
import Casm.Proofs.AssembleLemmas
/-!
# C19 — resource limits are diagnosed, not crashed into

The limits the code enforces, as theorems about the model (the limits are re-extracted from the
source on every run: `Casm/Gen/Consts.lean`):

* `parse_depth_limit` — an expression nested `PARSE_RECURSION_DEPTH_MAX` deep is answered with
  the depth error (parentheses, unary chains, blocks, call arguments, slices all re-enter
  `parseExpr`/`parseUnary` through this counter);
* `fn_depth_limit`, `asm_depth_limit` — function calls and asm blocks nested
  `EVAL_RECURSION_DEPTH_MAX` deep are answered with the recursion error;
* `add_capped`, `sub_capped`, `mul_capped`, `shl_capped` — a result of `+ - * <<` that is
  returned has fewer than `BIGINT_MAX_BITS` bits (so values cannot grow without bound);
  `shl_amount_limited` — a shift amount of `2^32` or more is an error;
* `toUsize_rejects` — conversions to a machine word reject negatives and values `≥ 2^64`;
  `reserve_size_fits` — a reservation whose size in bits is `2^64` or more is an error;
* `passes_bounded` — the number of passes never exceeds the budget (+ one confirming pass).

**Not bounded by the code** (findings F14a–F14d and F14f–F14h, exhibited on the real binary by the
check, no theorem possible): the height of operator chains built by the parser's loops, `#if`
nesting, the re-entry of a left-recursive sub-rule, the number of lookahead combinations of the
matcher, the depth to which labels and sub-rule operands nest, and the sizes asked for by slices,
width suffixes, alignments, addresses and output offsets.
-/
namespace Casm.C19

theorem parse_depth_limit (fuel d : Nat) (s : Src) (h : Gen.PARSE_RECURSION_DEPTH_MAX ≤ d) :
    parseExpr (fuel + 1) d s = .error depthErr := by
  rw [parseExpr, if_pos (Nat.lt_succ_of_le h)]

theorem fn_depth_limit (st : Static) (defs : Defs) (fuel : Nat) (ctx : RCtx) (idx : Nat) (args : List Value) (ectx : ECtx)
    (hd : Gen.EVAL_RECURSION_DEPTH_MAX ≤ ectx.depth) :
    (mkEnv st defs (fuel + 1) ctx).fn (.fn idx) args ectx = .error recursionErr := by
  rw [mkEnv_fn, if_pos hd]

theorem asm_depth_limit (st : Static) (defs : Defs) (fuel : Nat) (ctx : RCtx) (text : List Char) (ectx : ECtx)
    (hd : Gen.EVAL_RECURSION_DEPTH_MAX ≤ ectx.depth) :
    (mkEnv st defs (fuel + 2) ctx).asm text ectx = .error recursionErr := by
  rw [mkEnv_asm, evalAsm, if_pos hd]

theorem add_capped (l r v : Int) (h : checkedAdd l r = .ok v) : bitLen v < Gen.BIGINT_MAX_BITS := by
  obtain ⟨hc, h⟩ := guard_ok h
  cases h
  have := bitLen_add_le l r
  omega

theorem sub_capped (l r v : Int) (h : checkedSub l r = .ok v) : bitLen v < Gen.BIGINT_MAX_BITS := by
  obtain ⟨hc, h⟩ := guard_ok h
  cases h
  have := bitLen_sub_le l r
  omega

theorem mul_capped (l r v : Int) (h : checkedMul l r = .ok v) : bitLen v < Gen.BIGINT_MAX_BITS := by
  obtain ⟨hc, h⟩ := guard_ok h
  cases h
  have := bitLen_mul_le l r
  omega

theorem shl_capped (l r v : Int) (h : checkedShl l r = .ok v) : bitLen v < Gen.BIGINT_MAX_BITS := by
  unfold checkedShl at h
  split at h
  · obtain ⟨hc, h⟩ := guard_ok h
    cases h
    have := bitLen_mul_two_pow l r.toNat
    omega
  · cases h

/-- a shift amount of `2^32` or more (or a negative one) is an error -/
theorem shl_amount_limited (l r : Int) (h : r < 0 ∨ (4294967296 : Int) ≤ r) : checkedShl l r = .error outOfRange := by
  unfold checkedShl
  rw [if_neg (by omega)]

/-- conversions to a machine word reject what does not fit -/
theorem toUsize_rejects (x : Int) (h : x < 0 ∨ (18446744073709551616 : Int) ≤ x) : toUsize x = none := by
  unfold toUsize USIZE_MAX1
  rw [if_neg (by omega)]

/-- the number of passes is bounded by the budget -/
theorem passes_bounded (st : Static) (nodes : List AstNode) (max : Nat) (d0 : Defs) (k : Nat) (d : Defs) (rep : List String)
    (h : resolveIterativelyN st nodes max d0 = .ok (k, d, rep)) : k ≤ max :=
  Iter.iters_le_budget (absPass st nodes) max d0 k d (resolveIterativelyN_sim st nodes max d0 k d rep h)

/-- **a bank whose size in bits does not fit a `usize` is rejected** (finding F47, repaired: the size in address
    units was multiplied by the unit without a check): whenever a bank is defined, its size is below 2^64 bits -/
theorem bank_size_fits_usize (d : Decls) (defs : Defs) (b : BankdefAst) (bank : Bank) (h : defineBank d defs b = .ok bank) :
    ∀ s, bank.size = some s → s < USIZE_MAX1 :=
  (defineBank_ok h).1

/-- **a bank's window in the output is addressable** (finding F81, repaired): where a bank has a size and an output offset,
    their sum fits a machine word - so no position inside the bank can wrap around -/
theorem bank_window_fits_usize (d : Decls) (defs : Defs) (b : BankdefAst) (bank : Bank) (h : defineBank d defs b = .ok bank) :
    ∀ s o, bank.size = some s → bank.outp = some o → o + s < USIZE_MAX1 :=
  (defineBank_ok h).2

/-- **the static size of a concatenation is the exact sum of the parts' sizes, or unknown** - never the sum modulo 2^64
    (finding F82, repaired) -/
theorem static_size_of_concat_is_exact (p : SKProvider) (l r : Expr) (n : Nat)
    (h : staticSize p (.bin .Concat l r) = some n) :
    ∃ a b, staticSize p l = some a ∧ staticSize p r = some b ∧ n = a + b ∧ n < USIZE_MAX1 := by
  -- the clause of `staticSize` for `Concat`, by evaluation: `rw [staticSize]` is slow to check
  replace h : (match staticSize p l, staticSize p r with
    | some a, some b => if a + b < USIZE_MAX1 then some (a + b) else none
    | _, _ => none) = some n := h
  split at h
  · rename_i a b hl hr
    rcases ite_eq_cases h with ⟨hlt, h⟩ | ⟨_, h⟩
    · cases h; exact ⟨a, b, hl, hr, rfl, hlt⟩
    · cases h
  · cases h

/-! ### positions are machine words that never wrap (finding F61, repaired) -/

theorem pos_setPos (s : IterSt) (p : Nat) (h : s.bank < s.cur.length) : (s.setPos p).pos = p := by
  simp [IterSt.pos, IterSt.setPos, List.getD_eq_getElem?_getD, h]

/-- **adding to a position either fits a machine word or is an error** - it is never taken modulo 2^64 -/
theorem addPos_exact (s s' : IterSt) (n : Nat) (h : addPos s n = .ok s') :
    s' = s.setPos (s.pos + n) ∧ s.pos + n < 2 ^ 64 := by
  unfold addPos at h
  split at h
  · rename_i hlt; injection h with h; exact ⟨h.symm, hlt⟩
  · cases h

theorem addPos_rejects (s : IterSt) (n : Nat) (h : 2 ^ 64 ≤ s.pos + n) : addPos s n = .error .valueRange := by
  unfold addPos; rw [if_neg (by omega)]

/-- **an instruction, a data element or a reservation moves the position by exactly its size**, and the new
    position fits a machine word; where it would not, the step is the error "value is out of supported range" -/
theorem advance_emit_exact (banks : List Bank) (s s' : IterSt) (bits : List Bool) (h : advance banks s (.emit bits) = .ok s') :
    s' = s.setPos (s.pos + bits.length) ∧ s.pos + bits.length < 2 ^ 64 := addPos_exact s s' _ h

theorem advance_res_exact (banks : List Bank) (s s' : IterSt) (n : Nat) (h : advance banks s (.res n) = .ok s') :
    s' = s.setPos (s.pos + n) ∧ s.pos + n < 2 ^ 64 := addPos_exact s s' _ h

theorem advance_overflow_is_an_error (banks : List Bank) (s : IterSt) (n : Nat) (h : 2 ^ 64 ≤ s.pos + n) :
    advance banks s (.res n) = .error .valueRange ∧
    ∀ bits : List Bool, bits.length = n → advance banks s (.emit bits) = .error .valueRange :=
  ⟨addPos_rejects s n h, fun bits hb => by subst hb; exact addPos_rejects s _ h⟩

/-- an alignment moves the position by the padding `bits_until_alignment` computed, or is an error -/
theorem advance_align_exact (banks : List Bank) (s s' : IterSt) (a : Nat) (h : advance banks s (.align a) = .ok s') :
    ∃ b k, banks[s.bank]? = some b ∧ bitsUntilAlignment (b.addrStart * b.addrUnit + s.pos) a = .ok k ∧
      s' = s.setPos (s.pos + k) ∧ s.pos + k < 2 ^ 64 := by
  simp only [advance] at h
  split at h
  · cases h
  · rename_i b hb
    split at h
    · rename_i k hk; exact ⟨b, k, hb, hk, addPos_exact s s' k h⟩
    · cases h

/-- **a reservation whose size in bits does not fit a machine word is an error** (`#res n` in a bank whose
    address unit is huge): the product is never taken modulo 2^64 -/
theorem reserve_size_fits (st : Static) (defs defs' : Defs) (ctx : RCtx) (ref : Nat) (e : Expr) (b : Bool) (rep : List String)
    (h : resolveRes st defs ctx ref e = .ok (defs', b, rep)) : defs'.res.getD ref 0 < USIZE_MAX1 ∨ defs'.res.length ≤ ref := by
  rw [resolveRes_eq] at h
  obtain ⟨x, o, _, hs, rfl⟩ := commit_bind_ok h
  obtain ⟨n, _, hlt, rfl, _⟩ := resStep_ok hs
  by_cases hlen : ref < defs.res.length
  · left; simpa [resSlot, List.getD_eq_getElem?_getD, hlen] using hlt
  · right; simp only [resSlot, Option.elim, List.length_set]; omega

example : addPos ⟨0, [18446744073709551615]⟩ 8 = .error .valueRange := addPos_rejects _ _ (by decide)
example : (addPos ⟨0, [8]⟩ 8).toOption.map (·.pos) = some 16 := by decide +kernel

end Casm.C19
