import Casm.Model.Overlap
import Casm.Model.Layout
import Casm.Proofs.OverlapLemmas
import Casm.Proofs.LayoutLemmas
/-!
# C06 — output layout is safe: the overlap checker, then banks and `build_output`

`OInv` (sorted by position, consecutive entries disjoint, sizes positive) is an invariant
of every accepted insertion history, an insertion is accepted exactly when the new range
is disjoint from every stored one, and zero-size requests are accepted without being
stored.  Hence no two emitted items ever share an output bit.

For the layout model, `build_output_safe` (its invariant is `BInv`), `position_formula`,
`bank_windows_disjoint` and `accepted_item_is_addressable`.
-/
namespace Casm.C06

/-- An accepted insertion keeps the invariant, stores exactly the new range, and the new
    range is disjoint from every range stored before. -/
theorem insert_accept (es es' : List OEntry) (p s : Nat) (hs : 0 < s) (hinv : OInv es)
    (h : checkAndInsert es p s = some es') :
    OInv es' ∧ es'.Perm (⟨p, s⟩ :: es) ∧ ∀ e ∈ es, Disj ⟨p, s⟩ e := by
  rcases checkAndInsert_spec es p s hs hinv with ⟨_, h', hr⟩ | ⟨h', _⟩
  · cases h.symm.trans h'; exact hr
  · cases h.symm.trans h'

/-- zero-size requests are accepted and not stored -/
theorem insert_zero (es : List OEntry) (p : Nat) : checkAndInsert es p 0 = some es := if_pos rfl

/-- a rejected insertion really overlaps a stored range -/
theorem insert_reject (es : List OEntry) (p s : Nat) (hinv : OInv es) (h : checkAndInsert es p s = none) :
    0 < s ∧ ∃ e ∈ es, ¬ Disj ⟨p, s⟩ e := by
  rcases Nat.eq_zero_or_pos s with rfl | hs
  · cases (insert_zero es p).symm.trans h
  · rcases checkAndInsert_spec es p s hs hinv with ⟨_, h', _⟩ | ⟨_, hov⟩
    · cases h.symm.trans h'
    · exact ⟨hs, hov⟩

/-- accepted exactly when disjoint from everything stored (for positive sizes) -/
theorem insert_iff_disjoint (es : List OEntry) (p s : Nat) (hs : 0 < s) (hinv : OInv es) :
    (checkAndInsert es p s).isSome ↔ ∀ e ∈ es, Disj ⟨p, s⟩ e := by
  rcases checkAndInsert_spec es p s hs hinv with ⟨_, h, _, _, hd⟩ | ⟨h, e, he, hn⟩
  · rw [h]; exact ⟨fun _ => hd, fun _ => rfl⟩
  · rw [h]; exact ⟨nofun, fun hd => absurd (hd e he) hn⟩

theorem ov_step (ov ov' : List OEntry) (p s : Nat) (hinv : OInv ov) (h : checkAndInsert ov p s = some ov') :
    OInv ov' ∧ (∀ e ∈ ov, e ∈ ov') ∧ (0 < s → (⟨p, s⟩ : OEntry) ∈ ov' ∧ ∀ e ∈ ov, Disj ⟨p, s⟩ e) := by
  rcases Nat.eq_zero_or_pos s with h0 | h0
  · subst h0; cases (insert_zero ov p).symm.trans h; exact ⟨hinv, fun _ he => he, fun h => absurd h (Nat.lt_irrefl 0)⟩
  · obtain ⟨hi, hp, hd⟩ := insert_accept ov ov' p s h0 hinv h
    exact ⟨hi, fun e he => hp.symm.subset (List.mem_cons_of_mem _ he), fun _ => ⟨hp.symm.subset List.mem_cons_self, hd⟩⟩

/-- the invariant holds after every accepted history, from any invariant start -/
theorem history_inv (es es' : List OEntry) (hist : List (Nat × Nat)) (hinv : OInv es)
    (h : insertAll es hist = some es') : OInv es' := by
  fun_induction insertAll es hist with
  | case1 es => cases h; exact hinv
  | case2 es p s rest es1 hc ih => exact ih (ov_step es _ p s hinv hc).1 h
  | case3 es p s rest hc => cases h

/-- **No two emitted items share an output bit**: after any accepted history the stored
    ranges are pairwise disjoint. -/
theorem no_two_items_share_a_bit (es' : List OEntry) (hist : List (Nat × Nat))
    (h : insertAll [] hist = some es') : es'.Pairwise Disj :=
  OInv.pairwise (history_inv [] es' hist trivial h)

/-- the F07 history (a zero-size reservation between two writes at the same place) is
    rejected -/
example : insertAll [] [(0, 8), (0, 0), (0, 8)] = none := by decide +kernel
example : insertAll [] [(8, 8), (0, 8), (16, 4), (4, 0)] = some [⟨0, 8⟩, ⟨8, 8⟩, ⟨16, 4⟩] := by decide +kernel

/-- one emitted item, with the bank and in-bank position it was written at (ghost record) -/
structure Emitted where
  pos : Nat
  bits : List Bool
  addr : Int
  bank : Bank
  cur : Nat

def EDisj (a b : Emitted) : Prop :=
  a.bits.length = 0 ∨ b.bits.length = 0 ∨ Disj ⟨a.pos, a.bits.length⟩ ⟨b.pos, b.bits.length⟩

def endsMax (L0 : Nat) (ds : List Emitted) : Nat := ds.foldl (fun m d => max m (d.pos + d.bits.length)) L0

def emitBits : RItem → List (List Bool)
  | .emit bits => [bits]
  | _ => []

theorem EDisj.not_mem {a b : Emitted} (h : EDisj a b) {i : Nat} (ha : a.pos ≤ i ∧ i < a.pos + a.bits.length) :
    ¬ (b.pos ≤ i ∧ i < b.pos + b.bits.length) := by
  unfold EDisj Disj at h; simp only at h; omega

def render (out0 : List Bool) (ds : List Emitted) : List Bool := ds.foldl (fun o d => writeAt o d.pos d.bits) out0

theorem render_cons (out0 : List Bool) (d : Emitted) (ds : List Emitted) :
    render out0 (d :: ds) = render (writeAt out0 d.pos d.bits) ds := rfl

theorem render_concat (out0 : List Bool) (ds : List Emitted) (d : Emitted) :
    render out0 (ds ++ [d]) = writeAt (render out0 ds) d.pos d.bits := List.foldl_append ..

theorem length_render (out0 : List Bool) (ds : List Emitted) : (render out0 ds).length = endsMax out0.length ds :=
  (List.foldl_hom List.length fun o d => (length_writeAt o d.pos d.bits).symm).symm

theorem readBit_render_outside (out0 : List Bool) (ds : List Emitted) (i : Nat)
    (h : ∀ d ∈ ds, ¬ (d.pos ≤ i ∧ i < d.pos + d.bits.length)) : readBit (render out0 ds) i = readBit out0 i := by
  induction ds generalizing out0 with
  | nil => rfl
  | cons d ds ih =>
    rw [List.forall_mem_cons] at h
    rw [render_cons, ih _ h.2, readBit_writeAt, if_neg h.1]

theorem readBit_render (out0 : List Bool) (ds : List Emitted) (hp : ds.Pairwise EDisj) :
    ∀ d ∈ ds, ∀ j, j < d.bits.length → readBit (render out0 ds) (d.pos + j) = d.bits.getD j false := by
  induction ds generalizing out0 with
  | nil => exact fun _ h => nomatch h
  | cons d0 ds ih =>
    intro d hd j hj
    rw [List.pairwise_cons] at hp
    rcases List.mem_cons.1 hd with rfl | hd
    · have hin := And.intro (Nat.le_add_right d.pos j) (Nat.add_lt_add_left hj d.pos)
      rw [render_cons, readBit_render_outside _ ds _ fun d' hd' => (hp.1 d' hd').not_mem hin,
        readBit_writeAt, if_pos hin, Nat.add_sub_cancel_left]
    · exact ih _ hp.2 d hd j hj

/-- The invariant of the `build_output` loop; `ds` are the items emitted so far, `out0` the output the loop started
    from.  It does not mention the iterator. -/
structure BInv (banks : List Bank) (out0 out : List Bool) (spans : List OSpan) (ov : List OEntry)
    (ds : List Emitted) : Prop where
  oinv : OInv ov
  inov : ∀ d ∈ ds, 0 < d.bits.length → (⟨d.pos, d.bits.length⟩ : OEntry) ∈ ov
  pair : ds.Pairwise EDisj
  out_eq : out = render out0 ds
  win : ∀ d ∈ ds, d.bank ∈ banks ∧ ∃ o, d.bank.outp = some o ∧ d.pos = o + d.cur ∧
          (∀ sz, d.bank.size = some sz → d.cur + d.bits.length ≤ sz) ∧ d.addr = getAddress d.bank d.cur
  spans_emit : ∀ sp ∈ spans, 0 < sp.size → ∃ d ∈ ds, sp = ⟨some d.pos, d.bits.length, d.addr⟩

theorem step_inv (banks : List Bank) (out0 : List Bool) (st st' : BuildSt) (ds : List Emitted) (item : RItem)
    (hinv : BInv banks out0 st.out st.spans st.ov ds) (h : buildStep banks st item = .ok st') :
    ∃ ds', BInv banks out0 st'.out st'.spans st'.ov ds' ∧ ds'.map (·.bits) = ds.map (·.bits) ++ emitBits item := by
  obtain ⟨it, b, st1, it', hb, hn, rfl⟩ := buildStep_ok h
  cases item with
  | emit bits =>
    obtain ⟨o, ho, _, hwin, hci, hout, hsp, _⟩ := nodeEmit_ok banks b it st st1 bits hn
    obtain ⟨hoinv, hsub, hnew⟩ := ov_step _ _ _ _ hinv.oinv hci
    let nd : Emitted := ⟨o + it.pos, bits, getAddress b it.pos, b, it.pos⟩
    refine ⟨ds ++ [nd], ?_, by rw [List.map_append]; rfl⟩
    refine { oinv := hoinv, inov := ?inov, pair := ?pair, out_eq := ?out_eq, win := ?win, spans_emit := ?spans_emit }
    case inov =>
      rw [List.forall_mem_append, List.forall_mem_singleton]
      exact ⟨fun d hd hp => hsub _ (hinv.inov d hd hp), fun hp => (hnew hp).1⟩
    case pair =>
      refine List.pairwise_append.2 ⟨hinv.pair, List.pairwise_singleton _ _, fun d hd d' hd' => ?_⟩
      cases List.mem_singleton.1 hd'
      -- an item that is not empty is stored in the checker, and the new range was disjoint from all of those
      rcases Nat.eq_zero_or_pos d.bits.length with h0 | h0
      · exact .inl h0
      rcases Nat.eq_zero_or_pos bits.length with h1 | h1
      · exact .inr (.inl h1)
      · exact .inr (.inr (Or.symm ((hnew h1).2 _ (hinv.inov d hd h0))))
    case out_eq => rw [hout, hinv.out_eq, render_concat]
    case win =>
      rw [List.forall_mem_append, List.forall_mem_singleton]
      exact ⟨hinv.win, List.mem_of_getElem? hb, o, ho, rfl, hwin, rfl⟩
    case spans_emit =>
      rw [hsp, List.forall_mem_append, List.forall_mem_singleton]
      exact ⟨fun sp hs hp => (hinv.spans_emit sp hs hp).imp fun d hd => ⟨List.mem_append_left _ hd.1, hd.2⟩,
        fun _ => ⟨nd, List.mem_append_right _ (List.mem_singleton_self nd), rfl⟩⟩
  | res n =>
    obtain ⟨hout, hsp, _, hov⟩ := nodeRes_ok banks b it st st1 n hn
    have hstep : OInv st1.ov ∧ ∀ e ∈ st.ov, e ∈ st1.ov := by
      rcases hov with he | ⟨o, _, hci⟩
      · rw [he]; exact ⟨hinv.oinv, fun _ h => h⟩
      · obtain ⟨hoinv, hsub, _⟩ := ov_step _ _ _ _ hinv.oinv hci
        exact ⟨hoinv, hsub⟩
    exact ⟨ds, ⟨hstep.1, fun d hd hp => hstep.2 _ (hinv.inov d hd hp), hinv.pair, hout ▸ hinv.out_eq, hinv.win,
      hsp ▸ hinv.spans_emit⟩, (List.append_nil _).symm⟩
  | label d v =>
    obtain ⟨hout, hov, _, hsp⟩ := nodeLabel_ok banks b it st st1 v hn
    refine ⟨ds, ⟨hov ▸ hinv.oinv, hov ▸ hinv.inov, hinv.pair, hout ▸ hinv.out_eq, hinv.win, ?_⟩, (List.append_nil _).symm⟩
    rw [hsp, List.forall_mem_append, List.forall_mem_singleton]
    exact ⟨hinv.spans_emit, fun hp => absurd hp (Nat.lt_irrefl 0)⟩
  | _ => cases hn; exact ⟨ds, hinv, (List.append_nil _).symm⟩

theorem loop_inv (banks : List Bank) (out0 : List Bool) (items : List RItem) (st st' : BuildSt) (ds : List Emitted)
    (hinv : BInv banks out0 st.out st.spans st.ov ds) (h : buildLoop banks st items = .ok st') :
    ∃ ds', BInv banks out0 st'.out st'.spans st'.ov ds' ∧
      ds'.map (·.bits) = ds.map (·.bits) ++ items.flatMap emitBits := by
  induction items generalizing st ds with
  | nil => cases h; exact ⟨ds, hinv, (List.append_nil _).symm⟩
  | cons i rest ih =>
    rw [buildLoop] at h
    split at h
    · cases h
    next st1 hs =>
      obtain ⟨ds1, hI1, hm1⟩ := step_inv banks out0 st st1 ds i hinv hs
      obtain ⟨ds2, hI2, hm2⟩ := ih st1 ds1 hI1 h
      exact ⟨ds2, hI2, by rw [hm2, hm1, List.flatMap_cons, List.append_assoc]⟩

/-- **C06 for the layout model.**  If `build_output` succeeds there is a list of emitted
    items — exactly the bit strings of the emitting items, in order — such that: no two of
    them share an output bit; each lies in the output window of its bank at
    `outp + position`, the address being `position / unit + addr`; the output holds
    exactly their bits at their positions; every other bit is zero; and the output
    extends exactly to the last written bit or the end of the last filled bank. -/
theorem build_output_safe (banks : List Bank) (items : List RItem) (out : Output)
    (h : buildOutput banks items = .ok out) :
    ∃ ds : List Emitted,
      ds.map (·.bits) = items.flatMap emitBits ∧
      ds.Pairwise EDisj ∧
      (∀ d ∈ ds, d.bank ∈ banks ∧ ∃ o, d.bank.outp = some o ∧ d.pos = o + d.cur ∧
          (∀ sz, d.bank.size = some sz → d.cur + d.bits.length ≤ sz) ∧ d.addr = getAddress d.bank d.cur) ∧
      (∀ d ∈ ds, ∀ j, j < d.bits.length → readBit out.bits (d.pos + j) = d.bits.getD j false) ∧
      (∀ i, readBit out.bits i = true → ∃ d ∈ ds, d.pos ≤ i ∧ i < d.pos + d.bits.length) ∧
      out.bits.length = endsMax (fillBanks banks []).length ds ∧
      (∀ sp ∈ out.spans, 0 < sp.size → ∃ d ∈ ds, sp = ⟨some d.pos, d.bits.length, d.addr⟩) := by
  unfold buildOutput at h
  split at h
  · cases h
  split at h
  · cases h
  next st hl =>
    cases h
    have h0 : BInv banks (fillBanks banks []) (fillBanks banks []) [] [] [] :=
      ⟨trivial, fun _ h => (nomatch h), .nil, rfl, fun _ h => (nomatch h), fun _ h => (nomatch h)⟩
    obtain ⟨ds, hI, hm⟩ := loop_inv banks _ items ⟨initIter banks, fillBanks banks [], [], []⟩ st [] h0 hl
    obtain ⟨_, out, spans, _⟩ := st
    obtain ⟨-, -, hpair, rfl, hwin, hspans⟩ := hI
    refine ⟨ds, hm, hpair, hwin, readBit_render _ ds hpair, fun i hi => ?_, length_render _ ds, hspans⟩
    -- the filled banks are all zero, so a bit that is set lies in a written range
    apply Classical.byContradiction
    intro hn
    have := readBit_render_outside (fillBanks banks []) ds i fun d hd hr => hn ⟨d, hd, hr⟩
    rw [readBit_fillBanks] at this
    exact Bool.false_ne_true (this.symm.trans hi)

/-- position formula: `pos = outp + (addr - addr₀)·unit + cur mod unit` -/
theorem position_formula (b : Bank) (cur o : Nat) (hu : 0 < b.addrUnit) :
    ((o + cur : Nat) : Int) = o + (getAddress b cur - b.addrStart) * b.addrUnit + (cur % b.addrUnit : Nat) := by
  rw [getAddress, Int.add_sub_cancel, Int.add_assoc, ← Int.natCast_mul, ← Int.natCast_add, Nat.div_add_mod',
    Int.natCast_add]

/-- bank windows: if `check_bank_overlap` passes, any two user banks that both have an
    output offset and a size have disjoint output windows -/
theorem bank_windows_disjoint (banks : List Bank) (h : checkBankOverlap banks = true)
    (i j : Nat) (hi : 1 ≤ i) (hij : i < j) (hj : j < banks.length)
    (o1 o2 s1 s2 : Nat)
    (h1 : (banks.getD i defaultBank).outp = some o1) (h2 : (banks.getD j defaultBank).outp = some o2)
    (hs1 : (banks.getD i defaultBank).size = some s1) (hs2 : (banks.getD j defaultBank).size = some s2) :
    o1 + s1 ≤ o2 ∨ o2 + s2 ≤ o1 := by
  unfold checkBankOverlap at h
  simp only [List.all_eq_true, List.mem_filter, List.mem_range, decide_eq_true_eq, and_imp] at h
  have := h i (Nat.lt_trans hij hj) hi j hj (Nat.le_trans hi (Nat.le_of_lt hij))
  rw [if_pos hij] at this
  simp only [banksOverlap, h1, h2, hs1, hs2, Bool.not_eq_true', Bool.and_eq_false_iff, decide_eq_false_iff_not] at this
  exact this.imp Nat.le_of_not_lt Nat.le_of_not_lt

/-- **an accepted item's position in the output fits a machine word** (finding F81, repaired): the check that admits an
    item into its bank also makes sure that `outp + position + size` is not taken modulo 2^64, so the item cannot land
    outside its bank's window by wrapping around -/
theorem accepted_item_is_addressable (b : Bank) (cur size : Nat) (write : Bool)
    (h : checkBankOutput b cur size write = .ok ()) : ∀ o, b.outp = some o → o + cur + size < 2 ^ 64 :=
  checkBankOutput_fits b cur size write h

/-! ### bank fields (findings F65 and F57, repaired) -/

/-- **`fill = false` does not fill**, `fill = true` and a bare `fill` do, and an absent field does not -/
theorem fill_field_means_its_value (nm : String) (b : Bool) :
    fillValue (some ⟨nm, some (.lit (.bool b))⟩) = .ok b ∧ fillValue (some ⟨nm, none⟩) = .ok true ∧ fillValue none = .ok false :=
  ⟨rfl, rfl, rfl⟩

/-- a value that is not a boolean literal is rejected, not taken for true -/
theorem fill_field_rejects_other_values (nm : String) (v : BI) :
    fillValue (some ⟨nm, some (.lit (.int v))⟩) = .error "expected boolean literal" := rfl

/-- **only labels are padded to `labelalign`**: visiting a constant declaration leaves every bank position as it was -/
theorem constant_is_not_padded (banks : List Bank) (s : IterSt) (k : Nat) : visit banks s (.const k) = .ok s := rfl

end Casm.C06
