import Casm.Model.ExprEval
import Casm.Model.Literal
import Casm.Proofs.ExprLemmas
import Casm.Proofs.EvalEqns
/-!
# C05 — expressions compute exact unbounded-integer mathematics with tracked sizes

About `Casm.Model.{Literal,Token,Parse,Expr,ExprEval,Bits}`.
"Inverted slice bounds" is `hi < lo` — also `x[k-1:k]` (finding F50, repaired: the code had compared after adding one to the
upper bound); an upper bound of 2^64 − 1 is out of range (F49).
-/
-- for the `decide` test vectors whose two sides are `Except` values
deriving instance DecidableEq for Except

namespace Casm.C05

/-! ## numeric literals -/

def horner (radix : Nat) (ds : List Nat) (v : Nat) : Nat := ds.foldl (fun a d => a * radix + d) v

def digitsOf (radix : Nat) (cs : List Char) : List Nat :=
  (cs.filter (· != '_')).filterMap (toDigit radix)

def ValidBody (radix : Nat) (cs : List Char) : Prop :=
  ∀ c ∈ cs, c = '_' ∨ (toDigit radix c).isSome = true

/-- The digit loop computes the Horner value of the digits and counts them, for every
    radix, digit string and underscore placement. -/
theorem digitLoop_value (radix : Nat) (cs : List Char) (h : ValidBody radix cs) (v n : Nat) :
    digitLoop radix cs v n = .ok (horner radix (digitsOf radix cs) v, n + (digitsOf radix cs).length) := by
  fun_induction digitLoop radix cs v n with
  | case1 v n => rfl
  | case2 c cs v n hc ih =>
    have e : digitsOf radix (c :: cs) = digitsOf radix cs := by simp [digitsOf, bne, hc]
    rw [ih fun d hd => h d (List.mem_cons_of_mem _ hd), e]
  | case3 c cs v n hc d hd ih =>
    have e : digitsOf radix (c :: cs) = d :: digitsOf radix cs := by simp [digitsOf, bne, hc, hd]
    rw [ih fun d hd => h d (List.mem_cons_of_mem _ hd), e, List.length_cons, Nat.add_assoc, Nat.add_comm 1]
    rfl
  | case4 c cs v n hc hd =>
    rcases h c List.mem_cons_self with rfl | hs
    · exact absurd rfl hc
    · rw [hd] at hs; cases hs

/-- A literal with a radix prefix denotes the Horner value of its digits; for the
    power-of-two radices its size is digits × bits-per-digit, decimal literals are unsized. -/
theorem literal_value (pre : List Char) (radix : Nat) (cs : List Char)
    (hpre : parseRadix (pre ++ cs) = (radix, cs)) (hne : pre ++ cs ≠ [])
    (h : ValidBody radix cs) (hd : digitsOf radix cs ≠ []) :
    excerptAsBigint (pre ++ cs) =
      .ok ⟨(horner radix (digitsOf radix cs) 0 : Nat), (radixBits radix).map (· * (digitsOf radix cs).length)⟩ := by
  unfold excerptAsBigint
  cases hl : pre ++ cs with
  | nil => exact absurd hl hne
  | cons a as =>
    have hn : ((digitsOf radix cs).length == 0) = false := beq_eq_false_iff_ne.2 (mt List.length_eq_zero_iff.1 hd)
    simp only [← hl, hpre, digitLoop_value radix cs h 0 0, Nat.zero_add, hn, Bool.false_eq_true, if_false]

theorem prefix_hex (cs : List Char) : parseRadix ('0' :: 'x' :: cs) = (16, cs) := rfl
theorem prefix_bin (cs : List Char) : parseRadix ('0' :: 'b' :: cs) = (2, cs) := rfl
theorem prefix_oct (cs : List Char) : parseRadix ('0' :: 'o' :: cs) = (8, cs) := rfl
theorem prefix_dollar (cs : List Char) : parseRadix ('$' :: cs) = (16, cs) := rfl
theorem prefix_percent (cs : List Char) : parseRadix ('%' :: cs) = (2, cs) := rfl
theorem radix_bits : radixBits 2 = some 1 ∧ radixBits 8 = some 3 ∧ radixBits 16 = some 4 ∧ radixBits 10 = none := by decide +kernel

example : excerptAsBigint "0x1_f".toList = .ok ⟨31, some 8⟩ := by decide +kernel
example : excerptAsBigint "1_000".toList = .ok ⟨1000, none⟩ := by decide +kernel
example : excerptAsBigint "%0101".toList = .ok ⟨5, some 4⟩ := by decide +kernel

/-! ## arithmetic is exact, results are unsized -/

def InCap (l r : Int) (slack : Nat) : Prop := max (bitLen l) (bitLen r) < slack

theorem eval_add (a b : BI) (h : InCap a.v b.v (Gen.BIGINT_MAX_BITS - 1)) :
    evalBinInt .Add a b = .ok (.int ⟨a.v + b.v, none⟩) := by
  unfold evalBinInt
  rw [checkedAdd, if_neg (Nat.not_le.2 h)]
  rfl

theorem eval_sub (a b : BI) (h : InCap a.v b.v (Gen.BIGINT_MAX_BITS - 2)) :
    evalBinInt .Sub a b = .ok (.int ⟨a.v - b.v, none⟩) := by
  unfold evalBinInt
  rw [checkedSub, if_neg (Nat.not_le.2 h)]
  rfl

theorem eval_mul (a b : BI) (h : InCap a.v b.v (Gen.BIGINT_MAX_BITS / 2)) :
    evalBinInt .Mul a b = .ok (.int ⟨a.v * b.v, none⟩) := by
  unfold evalBinInt
  rw [checkedMul, if_neg (Nat.not_le.2 h)]
  rfl

/-- Division truncates toward zero and `%` is the matching remainder:
    `a = b·(a/b) + a%b`, `|a%b| < |b|`, and the remainder has the sign of the dividend. -/
theorem eval_div_mod (a b : BI) (hb : b.v ≠ 0) :
    ∃ q r, evalBinInt .Div a b = .ok (.int ⟨q, none⟩) ∧ evalBinInt .Mod a b = .ok (.int ⟨r, none⟩) ∧
      b.v * q + r = a.v ∧ r.natAbs < b.v.natAbs ∧ (0 ≤ a.v → 0 ≤ r) ∧ (a.v ≤ 0 → r ≤ 0) ∧
      q = Int.tdiv a.v b.v := by
  refine ⟨Int.tdiv a.v b.v, Int.tmod a.v b.v, ?_, ?_, Int.mul_tdiv_add_tmod _ _, ?_, ?_, ?_, rfl⟩
  · unfold evalBinInt; rw [checkedDiv, if_neg hb]; rfl
  · unfold evalBinInt; rw [checkedMod, if_neg hb]; rfl
  · rw [Int.natAbs_tmod]
    exact Nat.mod_lt _ (by omega)
  · intro h; exact Int.tmod_nonneg _ h
  · intro h
    have h2 : 0 ≤ -a.v := by omega
    have := Int.tmod_nonneg (b.v) h2
    rw [Int.neg_tmod] at this
    omega

theorem div_zero_err (a b : BI) (hb : b.v = 0) : evalBinInt .Div a b = .error "division by zero" := by
  unfold evalBinInt; rw [checkedDiv, if_pos hb]; rfl

theorem mod_zero_err (a b : BI) (hb : b.v = 0) : evalBinInt .Mod a b = .error "modulo by zero" := by
  unfold evalBinInt; rw [checkedMod, if_pos hb]; rfl

/-- `<<` multiplies by a power of two (within the size cap) -/
theorem eval_shl (a b : BI) (n : Nat) (hb : b.v = n) (hn : n < 2 ^ 32)
    (hcap : bitLen a.v + n < Gen.BIGINT_MAX_BITS) :
    evalBinInt .Shl a b = .ok (.int ⟨a.v * 2 ^ n, none⟩) := by
  unfold evalBinInt
  simp only [checkedShl, hb]
  rw [if_pos ⟨Int.natCast_nonneg n, Int.ofNat_lt.2 hn⟩, Int.toNat_natCast, if_neg (Nat.not_le.2 hcap), pow2_cast]
  rfl

/-- `>>` is the arithmetic shift: floor division by a power of two -/
theorem eval_shr (a b : BI) (n : Nat) (hb : b.v = n) (hn : n < 2 ^ 64) :
    evalBinInt .Shr a b = .ok (.int ⟨a.v / 2 ^ n, none⟩) := by
  unfold evalBinInt
  simp only [checkedShr, hb, toUsize_natCast hn]
  rw [shrInt_eq, Int.shiftRight_eq_div_pow, pow2_cast]
  rfl

theorem shift_negative_err (a b : BI) (hb : b.v < 0) :
    evalBinInt .Shl a b = .error outOfRange ∧ evalBinInt .Shr a b = .error outOfRange := by
  constructor
  · unfold evalBinInt
    rw [checkedShl, if_neg (by omega)]; rfl
  · unfold evalBinInt
    rw [checkedShr, toUsize, if_neg (by omega)]; rfl

/-- unary minus and bitwise not -/
theorem eval_neg_not (env : EvalEnv) (l : ECtx) (x : BI) :
    eval env l (.un .Neg (.lit (.int x))) = .ok (.int ⟨-x.v, none⟩, l) ∧
    eval env l (.un .Not (.lit (.int x))) = .ok (.int ⟨-x.v - 1, none⟩, l) := by
  constructor <;> rw [eval_un, eval] <;> rfl

theorem not_bits (x : Int) (i : Nat) : tbit (intNot x) i = !tbit x i := tbit_intNot x i

/-- `&`, `|`, `^` act bit by bit on the infinite two's-complement expansions -/
theorem eval_and_bits (a b : BI) : ∃ r, evalBinInt .And a b = .ok (.int ⟨r, none⟩) ∧
    ∀ i, tbit r i = (tbit a.v i && tbit b.v i) :=
  ⟨intAnd a.v b.v, rfl, fun i => tbit_intBitwise _ _ _ i⟩

theorem eval_or_bits (a b : BI) : ∃ r, evalBinInt .Or a b = .ok (.int ⟨r, none⟩) ∧
    ∀ i, tbit r i = (tbit a.v i || tbit b.v i) :=
  ⟨intOr a.v b.v, rfl, fun i => tbit_intBitwise _ _ _ i⟩

theorem eval_xor_bits (a b : BI) : ∃ r, evalBinInt .Xor a b = .ok (.int ⟨r, none⟩) ∧
    ∀ i, tbit r i = (tbit a.v i != tbit b.v i) :=
  ⟨intXor a.v b.v, rfl, fun i => tbit_intBitwise _ _ _ i⟩

/-- comparisons are those of the integers (sizes are irrelevant) -/
theorem eval_compare (a b : BI) :
    evalBinInt .Eq a b = .ok (.bool (decide (a.v = b.v))) ∧
    evalBinInt .Ne a b = .ok (.bool (decide (a.v ≠ b.v))) ∧
    evalBinInt .Lt a b = .ok (.bool (decide (a.v < b.v))) ∧
    evalBinInt .Le a b = .ok (.bool (decide (a.v ≤ b.v))) ∧
    evalBinInt .Gt a b = .ok (.bool (decide (a.v > b.v))) ∧
    evalBinInt .Ge a b = .ok (.bool (decide (a.v ≥ b.v))) := by
  unfold evalBinInt
  refine ⟨?_, ?_, ?_, ?_, ?_, ?_⟩ <;> simp [bne, Bool.beq_eq_decide_eq]

/-! ## slices and concatenation select and join exactly the named bits -/

/-- a sized value is well formed when it fits its size as an unsigned number or is negative
    (negative sized values are re-sliced; the identity short-cut of `slice` is only taken
    for non-negative values) -/
def Fits (x : BI) : Prop := ∀ s, x.size = some s → 0 ≤ x.v → x.v < 2 ^ s

/-- `x[hi:lo]`: size `hi+1-lo`, bit `i` of the result is bit `lo+i` of `x` -/
theorem slice_bits (x : BI) (left right : Nat) (hx : Fits x) (hlr : right ≤ left) :
    ∃ b, checkedSlice x left right = .ok b ∧ b.size = some (left - right) ∧
      ∀ i, tbit b.v i = (decide (i < left - right) && tbit x.v (right + i)) := by
  refine ⟨x.slice left right, by rw [checkedSlice, if_neg (by omega)], BI.slice_size x left right, fun i => ?_⟩
  by_cases hi : i < left - right
  · rw [tbit_slice_lt x left right i hi, decide_eq_true hi, Bool.true_and]
  · rw [decide_eq_false hi, Bool.false_and]
    -- at or above its width a slice has no bits: it is `x` itself below `2^left`, or a residue modulo `2^(left-right)`
    unfold BI.slice
    by_cases h : x.size = some left ∧ right = 0 ∧ ¬ x.v < 0
    · have hlt := hx left h.1 (by omega)
      rw [h.2.1, Nat.sub_zero] at hi
      have := tbit_emod_pow x.v left i
      rw [Int.emod_eq_of_lt (by omega) hlt, decide_eq_false hi, Bool.false_and] at this
      rw [if_pos h, this]
    · rw [if_neg h, tbit_bitsRange, decide_eq_false hi, Bool.false_and]

theorem slice_inverted_err (x : BI) (left right : Nat) (h : left < right) :
    checkedSlice x left right = .error "invalid slice range" := by
  simp [checkedSlice, h]

/-- `a @ b`: sizes add, the low `|b|` bits are `b`'s, the next `|a|` bits are `a`'s -/
theorem concat_bits (a b : BI) (lw rw : Nat) (ha : a.size = some lw) (hb : b.size = some rw) :
    ∃ r, evalBinInt .Concat a b = .ok (.int r) ∧ r.size = some (lw + rw) ∧
      ∀ i, tbit r.v i = if i < rw then tbit b.v i else (decide (i - rw < lw) && tbit a.v (i - rw)) := by
  refine ⟨a.concat lw 0 b rw 0, ?_, rfl, ?_⟩
  · unfold evalBinInt; simp only [ha, hb]
  · intro i
    simp only [BI.concat, Nat.sub_zero]
    rw [pow2_cast]
    have h0 := bitsRange_nonneg b.v rw 0
    have h1 := bitsRange_lt b.v rw 0
    simp only [Nat.sub_zero] at h1
    rw [tbit_mul_pow_add _ _ _ _ h0 h1]
    by_cases h : i < rw
    · rw [if_pos h, if_pos h, tbit_bitsRange, Nat.sub_zero, Nat.zero_add, decide_eq_true h, Bool.true_and]
    · rw [if_neg h, if_neg h, tbit_bitsRange, Nat.sub_zero, Nat.zero_add]

theorem concat_unsized_err (a b : BI) (h : a.size = none ∨ b.size = none) :
    evalBinInt .Concat a b = .error "argument to concatenation with indefinite size" := by
  rcases h with h | h
  · unfold evalBinInt; simp only [h]
  · unfold evalBinInt; cases ha : a.size <;> simp only [h]

/-! ## ill-typed operations are errors, never a made-up value -/

theorem cond_nonbool_err (env : EvalEnv) (l : ECtx) (b : BI) (t f : Expr) :
    eval env l (.tern (.lit (.int b)) t f) = .error "invalid condition type" := by
  rw [eval_tern, eval]; rfl

theorem bool_plus_int_err (env : EvalEnv) (l : ECtx) (p : Bool) (b : BI) :
    eval env l (.bin .Add (.lit (.bool p)) (.lit (.int b))) = .error "invalid argument types to operator" := by
  rw [eval_bin (by decide), eval]; rfl

theorem arithmetic_on_bools_err (p q : Bool) :
    evalBinBool .Add p q = .error "invalid argument types to operator" ∧
    evalBinBool .Lt p q = .error "invalid argument types to operator" := by
  constructor <;> rfl

/-! ## built-in functions -/

theorem sizeof_is_size (b : BI) (s : Nat) (h : b.size = some s) :
    evalBuiltin "sizeof" [.int b] = .ok (.int ⟨s, none⟩) := by
  -- `unfold`, not `simp [evalBuiltin]`: the equation lemmas of a `match` on string literals are slow to generate
  unfold evalBuiltin
  simp only [Value.getBigint, h]
  rfl

theorem sizeof_unsized_err (b : BI) (h : b.size = none) :
    evalBuiltin "sizeof" [.int b] = .error "value has no definite size" := by
  unfold evalBuiltin
  simp only [Value.getBigint, h]

theorem strlen_is_utf8_length (s : List Char) (e : Enc) :
    evalBuiltin "strlen" [.str s e] = .ok (.int ⟨(utf8Len s : Nat), none⟩) := by
  unfold evalBuiltin
  rfl

/-- a string as an integer: size is 8 × the number of encoded bytes -/
theorem string_size (s : List Char) (e : Enc) :
    (strToBigint s e).size = some (8 * (encodeBytes e s).length) := rfl

theorem le_requires_byte_multiple (b : BI) (s : Nat) (h : b.size = some s) (hs : s % 8 ≠ 0) :
    evalBuiltin "le" [.int b] = .error "argument to `le` must have a size multiple of 8" := by
  unfold evalBuiltin
  simp only [h]
  exact if_pos (bne_iff_ne.2 hs)

example : evalBuiltin "le" [.int ⟨0x1234, some 16⟩] = .ok (.int ⟨0x3412, some 16⟩) := by decide +kernel
example : evalBuiltin "le" [.int ⟨0xabcdef, some 24⟩] = .ok (.int ⟨0xefcdab, some 24⟩) := by decide +kernel

/-- **the bounds of `x[hi:lo]` are checked as written**: once the three operands have definite values, the slice is an
    error when `hi < lo` (inverted, also by one) or when `hi + 1` is no `usize`; otherwise it is the bits `hi … lo` of `x` -/
theorem slice_bounds_are_checked (env : EvalEnv) (c c1 c2 c3 : ECtx) (hi lo inner : Expr) (iv hv lv : Value) (x : BI) (h l : Nat)
    (h1 : eval env c inner = .ok (iv, c1)) (hp1 : iv.shouldPropagate = false) (hx : iv.getBigint = some x)
    (h2 : eval env c1 hi = .ok (hv, c2)) (hp2 : hv.shouldPropagate = false)
    (h3 : eval env c2 lo = .ok (lv, c3)) (hp3 : lv.shouldPropagate = false)
    (hh : expectUsize hv = .ok h) (hl : expectUsize lv = .ok l) :
    eval env c (.slice hi lo inner) =
      if h < l then .error "invalid slice range"
      else if h + 1 ≥ USIZE_MAX1 then .error outOfRange
      else (checkedSlice x (h + 1) l).map (fun b => (.int b, c3)) := by
  rw [eval]
  simp only [h1, hp1, hx, h2, hp2, h3, hp3, hh, hl, Bool.false_eq_true, if_false]

/-- hence an inverted range is an error, by one or by many -/
theorem slice_inverted_by_one_is_an_error (env : EvalEnv) (c c1 c2 c3 : ECtx) (hi lo inner : Expr) (iv hv lv : Value) (x : BI) (l : Nat)
    (h1 : eval env c inner = .ok (iv, c1)) (hp1 : iv.shouldPropagate = false) (hx : iv.getBigint = some x)
    (h2 : eval env c1 hi = .ok (hv, c2)) (hp2 : hv.shouldPropagate = false)
    (h3 : eval env c2 lo = .ok (lv, c3)) (hp3 : lv.shouldPropagate = false)
    (hh : expectUsize hv = .ok l) (hl : expectUsize lv = .ok (l + 1)) :
    eval env c (.slice hi lo inner) = .error "invalid slice range" := by
  rw [slice_bounds_are_checked env c c1 c2 c3 hi lo inner iv hv lv x l (l + 1) h1 hp1 hx h2 hp2 h3 hp3 hh hl]
  exact if_pos (Nat.lt_succ_self l)

/-! ## precedence: the table the parser is generated over is the documented one -/

theorem precedence_as_documented : Gen.precedence =
    [ [(.At, .Concat)],
      [(.DoubleVerticalBar, .LazyOr)],
      [(.DoubleAmpersand, .LazyAnd)],
      [(.DoubleEqual, .Eq), (.ExclamationEqual, .Ne), (.LessThan, .Lt), (.LessThanEqual, .Le),
       (.GreaterThan, .Gt), (.GreaterThanEqual, .Ge)],
      [(.VerticalBar, .Or)],
      [(.Circumflex, .Xor)],
      [(.Ampersand, .And)],
      [(.DoubleLessThan, .Shl), (.DoubleGreaterThan, .Shr)],
      [(.Plus, .Add), (.Minus, .Sub)],
      [(.Asterisk, .Mul), (.Slash, .Div), (.Percent, .Mod)] ] := by decide +kernel

theorem unary_and_assign_as_documented :
    Gen.unaryOps = [(.Exclamation, .Not), (.Minus, .Neg)] ∧ Gen.assignOps = [(.Equal, .Assign)] ∧
    Gen.precedenceEnd = "parse_slice" := by decide +kernel

/-! ### string literals: an escaped character never closes the string (finding F70, repaired) -/

theorem strBody_cons (c : Char) (r : List Char) :
    strBodyLen (c :: r) =
      if c == '"' then 0
      else if c == '\\' then (match r with | [] => 1 | _ :: r' => strBodyLen r' + 2)
      else strBodyLen r + 1 := by
  rw [strBodyLen.eq_def]; rfl

/-- where the scan stops inside the text, it stops at a quote; it never runs past the text -/
theorem strBody_closes (s : List Char) :
    strBodyLen s ≤ s.length ∧ (strBodyLen s < s.length → s[strBodyLen s]? = some '"') := by
  induction s using strBodyLen.induct with
  | case1 => simp [strBodyLen]
  | case2 c rest hq => simp_all [strBody_cons]
  | case3 c hq hb => simp [strBody_cons, hq, hb]
  | case4 c hq hb d rest ih =>
    rw [strBody_cons, if_neg hq, if_pos hb]
    simp only [List.length_cons]
    refine ⟨by omega, fun hl => ?_⟩
    simpa using ih.2 (by omega)
  | case5 c rest hq hb ih =>
    rw [strBody_cons, if_neg hq, if_neg hb]
    simp only [List.length_cons]
    refine ⟨by omega, fun hl => ?_⟩
    simpa using ih.2 (by omega)

/-- **where the scan stops inside the text, it stops at a quote that no backslash escapes**; it never runs past the text -/
theorem strBody_stops_at_quote : ∀ (n : Nat) (s : List Char), s.length ≤ n →
    strBodyLen s ≤ s.length ∧ (strBodyLen s < s.length → s[strBodyLen s]? = some '"') :=
  fun _ s _ => strBody_closes s

/-- **a string token ends at a quote that no backslash escapes**: if the tokenizer reads a string literal of `n` characters
    at `"` followed by `rest`, then the literal's body is the scanned prefix of `rest` and the character closing it is a quote -/
theorem string_token_ends_at_its_closing_quote (rest : List Char) (n : Nat)
    (h : checkString ('"' :: rest) = some (.String, n)) :
    n = strBodyLen rest + 2 ∧ rest[strBodyLen rest]? = some '"' := by
  simp only [checkString] at h
  split at h
  next hlt =>
    simp only [Option.some.injEq, Prod.mk.injEq, true_and] at h
    exact ⟨h.symm, (strBody_closes rest).2 hlt⟩
  next => cases h

/-- `"a\"b"` is one string token of six characters, `"\""` one of four, and a lone trailing backslash leaves the string open -/
example : checkString ['"', 'a', '\\', '"', 'b', '"'] = some (.String, 6) := by decide +kernel
example : checkString ['"', '\\', '"', '"'] = some (.String, 4) := by decide +kernel
example : checkString ['"', 'a', '\\', '"'] = none := by decide +kernel
example : stringContents ['"', 'a', '\\', '"', 'b', '"'] = some ['a', '"', 'b'] := by decide +kernel

end Casm.C05
