import Casm.Proofs.IterModel
import Casm.Proofs.AssembleLemmas
import Casm.Proofs.StableId
import Casm.Proofs.KindInv
import Casm.Proofs.FrontOKb
import Casm.Proofs.FrontFacts
import Casm.Proofs.FullFix
import Casm.Proofs.FrontInv
import Casm.Props.C01
/-!
# C02 — a successful result is a genuine fixed point, never a stale guess

About `Casm.assemble` (model of `asm::assemble`, tied to the implementation by the `asm`
correspondence stream and, per successful run, by the `cert` certificate computed on the
implementation's own final state).

* `success_is_confirmed` — whenever assembly succeeds, under any budget, the emitted bits,
  spans and symbol values were read from a state `d` produced by a pass in which guessing is
  forbidden (`last = true`), in which every item compared equal to its previous value
  (`stable = true`) and which reported nothing.
* `unconfirmed_is_error` — if no such pass exists the outcome is an error, and an error always
  carries a message (`error_has_message`).
* `stable_nonfirst_pass_is_identity` — a stable pass that is not the first one returns the
  state it was given (every item resolver compares its new value, and size, with the previous
  one), provided the state is well-formed (`NodesOK`: no hole in a symbol slot that a node
  uses, labels hold unsized addresses), and `every_pass_output_is_well_formed`.
* `success_is_fixed_point` — **with a budget of at least two passes** the final state `d` of a
  successful assembly is a fixed point: the strict, non-first pass run on `d` is stable,
  silent and returns `d` itself.  `fixed_point_recomputes_every_item` — in that pass every node
  is resolved *on the final state* `d` at its own position and returns `d`; together with
  `Casm.C01.instruction_emits_choice` / `label_is_address` / `chosen_are_smallest` this is the
  statement's "recomputing every instruction from the final symbol values selects one unique
  smallest encoding, which is what was emitted; every label is the address of what follows".
  That no constant node shares its symbol slot with a label node (`NoClash`, needed for
  well-formedness of pass outputs) is proved of every node list of the front end
  (`front_end_never_clashes`: a node's reference always points at a declaration of the node's own
  kind; declarations are append-only and keep their kind; `#if` splicing adds only reference-free
  nodes).  `success_is_fixed_point_at_every_budget` — the same from a budget of one pass (a stable
  first pass leaves a fixed point of the later strict pass).
* `success_recomputes_everything` — **the statement in full for the optimised assembler**: the
  fixed point above is that of the pass as the code runs it, which *skips* the items the static
  optimisation froze in the first pass.  With every mark cleared (`Defs.unfreeze`) the final
  state is still a fixed point: every frozen instruction recomputes, from the final values at its
  final address, to the frozen encoding, every frozen data element to its frozen bits.  Proof:
  the analysis is sound (C08), evaluation reads a state only through its values, every resolver
  commutes with clearing the marks, and an invariant of all passes (`Good`) keeps, for each mark,
  the state and context in which the item was frozen, related to the current state so that the
  soundness theorem applies (statically known symbols with a value are marked resolved and never
  change).  What the proof needs of the front end's output (`FrontOK`) is proved of it
  (`frontEnd_frontOK`); every certificate run evaluates its decision procedure `frontOKb`.
  `success_recomputes_everything_at_every_budget` is the same from a budget of one pass.  Findings
  F30–F34 (stale frozen encodings) are counterexamples its proof obligations produced.
* `every_emitted_instruction_is_unique_smallest` — the end-to-end clause for instructions, of every
  instruction, frozen or not, of every successful assembly.
-/
namespace Casm.C02

/-- the state `d` comes out of a strict, stable pass whose messages are `r` -/
def ConfirmedBy (st : Static) (nodes : List AstNode) (d : Defs) (r : List String) : Prop :=
  ∃ d0 f, resolveOnce st nodes f true d0 = .ok (d, true, r)

/-- what a successful `assemble` returns, in terms of the final state `d` -/
structure ReadFrom (st : Static) (nodes : List AstNode) (d : Defs) (res : AsmOk) : Prop where
  bits : ∃ bst, buildLoop d.banks ⟨initIter d.banks, fillBanks d.banks [], [], []⟩ (outputItems st d nodes) = .ok bst ∧
    res.bits = bst.out ∧ res.spans = bst.spans
  symbols : res.symbols = symbolListing st.decls d

theorem assemble_run {opts : Opts} {fs : SrcFiles} {roots : List (List Char)} {res : AsmOk} (h : assemble opts fs roots = .ok res) :
    ∃ st nodes defs0 k d, frontEnd opts fs roots = .ok (st, nodes, defs0) ∧
      resolveIterativelyN st nodes opts.maxIter defs0 = .ok (k, d, []) ∧ ReadFrom st nodes d res := by
  obtain ⟨st, nodes, defs0, k, d, bst, hf, hr, _, _, hb, rfl⟩ := assemble_ok h
  unfold resolveIteratively at hr
  rw [(frontEnd_opts opts fs roots st nodes defs0 hf).1] at hr
  exact ⟨st, nodes, defs0, k, d, hf, hr, ⟨bst, hb, rfl, rfl⟩, rfl⟩

/-- **C02, success side.** Whenever assembly succeeds — any program, any budget, any
    optimisation switches — there is a final state `d` from which bits, spans and symbols are
    read, and `d` was produced by a strict (`last`), stable, silent pass. -/
theorem success_is_confirmed (opts : Opts) (fs : SrcFiles) (roots : List (List Char)) (res : AsmOk)
    (h : assemble opts fs roots = .ok res) :
    ∃ st nodes defs0 d, frontEnd opts fs roots = .ok (st, nodes, defs0) ∧
      ConfirmedBy st nodes d [] ∧ ReadFrom st nodes d res := by
  obtain ⟨st, nodes, defs0, k, d, hf, hr, hread⟩ := assemble_run h
  -- every successful iteration ends with a strict stable pass; its messages are the last of all
  obtain ⟨_, d1, rp, f, r, _, hp, hrep, _⟩ := resolveIterativelyN_ok_inv (I := fun _ _ _ => True) trivial
    (fun _ _ _ _ _ _ _ _ _ => trivial) hr
  obtain rfl : r = [] := (List.append_eq_nil_iff.mp hrep.symm).2
  exact ⟨st, nodes, defs0, d, hf, ⟨d1, f, hp⟩, hread⟩

/-- **C02, failure side.** If no strict, stable, silent pass exists for the program (no
    consistent state can be confirmed), the outcome is an error, not output. -/
theorem unconfirmed_is_error (opts : Opts) (fs : SrcFiles) (roots : List (List Char))
    (h : ∀ st nodes defs0 d, frontEnd opts fs roots = .ok (st, nodes, defs0) → ¬ ConfirmedBy st nodes d []) :
    ∃ msgs, assemble opts fs roots = .error msgs := by
  cases ha : assemble opts fs roots with
  | error msgs => exact ⟨msgs, rfl⟩
  | ok res =>
    obtain ⟨st, nodes, defs0, d, hf, hc, _⟩ := success_is_confirmed opts fs roots res ha
    exact absurd hc (h st nodes defs0 d hf)

/-- an error is never silent -/
theorem error_has_message (opts : Opts) (fs : SrcFiles) (roots : List (List Char)) (msgs : List String)
    (h : assemble opts fs roots = .error msgs) : msgs ≠ [] := assemble_error_nonempty opts fs roots msgs h

/-- **a stable pass that is not the first one changes nothing** (on well-formed states) -/
theorem stable_nonfirst_pass_is_identity (st : Static) (nodes : List AstNode) (last : Bool) (d0 d : Defs) (rep : List String)
    (h : resolveOnce st nodes false last d0 = .ok (d, true, rep)) (hok : NodesOK d0 nodes) : d = d0 :=
  resolveOnce_stable_id st nodes last d0 d rep h hok

/-- **every state returned by a pass is well-formed**, whatever the pass was given -/
theorem every_pass_output_is_well_formed (st : Static) (nodes : List AstNode) (first last : Bool) (d0 d : Defs) (s : Bool) (rep : List String)
    (h : resolveOnce st nodes first last d0 = .ok (d, s, rep)) (hwf : NoClash nodes) : NodesOK d nodes :=
  pass_establishes_ok st nodes first last d0 d s rep h hwf

/-- the state is a fixed point of the strict pass: stable, silent, unchanged -/
def FixedPoint (st : Static) (nodes : List AstNode) (d : Defs) : Prop :=
  resolveOnce st nodes false true d = .ok (d, true, [])

/-- **C02.** Whenever assembly succeeds — with any budget of at least one pass — the state from
    which the output is read is a fixed point of the strict pass.  (With a budget of one pass the only
    pass is first, strict and stable; that its result is a fixed point of the later strict pass is
    `resolveIterativelyN_fixed_point_one` in `Casm.Proofs.Corner`, which needs the front end's `Uniq`
    and `NodesOK`, both proved of it.) -/
theorem success_is_fixed_point_at_every_budget (opts : Opts) (fs : SrcFiles) (roots : List (List Char)) (res : AsmOk)
    (hb : 1 ≤ opts.maxIter) (h : assemble opts fs roots = .ok res) :
    ∃ st nodes defs0 d, frontEnd opts fs roots = .ok (st, nodes, defs0) ∧
      FixedPoint st nodes d ∧ ReadFrom st nodes d res := by
  obtain ⟨st, nodes, defs0, k, d, hf, hr, hread⟩ := assemble_run h
  exact ⟨st, nodes, defs0, d, hf, resolveIterativelyN_rep_any st nodes opts.maxIter hb
    (frontEnd_noClash opts fs roots st nodes defs0 hf) (frontEnd_uniq opts fs roots st nodes defs0 hf) defs0
    (frontEnd_nodesOK opts fs roots st nodes defs0 hf) k d [] hr, hread⟩

/-- the same under the stronger hypothesis of a budget of at least two passes -/
theorem success_is_fixed_point (opts : Opts) (fs : SrcFiles) (roots : List (List Char)) (res : AsmOk)
    (hb : 2 ≤ opts.maxIter) (h : assemble opts fs roots = .ok res) :
    ∃ st nodes defs0 d, frontEnd opts fs roots = .ok (st, nodes, defs0) ∧
      FixedPoint st nodes d ∧ ReadFrom st nodes d res :=
  success_is_fixed_point_at_every_budget opts fs roots res (by omega) h

/-- the state with every first-pass mark cleared is a fixed point of the strict pass: recomputing
    **every** item — also those the static optimisation froze in the first pass — from the final
    values reproduces the state from which the output is read -/
def FullFixedPoint (st : Static) (nodes : List AstNode) (d : Defs) : Prop :=
  resolveOnce st nodes false true d.unfreeze = .ok (d.unfreeze, true, [])

/-- **C02, the statement in full for the optimised assembler.**  Whenever assembly succeeds with
    the static optimisation on and any budget of at least one pass, recomputing every instruction,
    data element, label and constant from the final state — nothing skipped — is stable, silent and
    reproduces that state.  No hypothesis on the program is left: what the proof needs about the
    front end's output (`FrontOK`) is proved of the front end (`frontEnd_frontOK`); its decision
    procedure `frontOKb` is still evaluated by the certificate of every correspondence run. -/
theorem success_recomputes_everything_at_every_budget (opts : Opts) (fs : SrcFiles) (roots : List (List Char)) (res : AsmOk)
    (hb : 1 ≤ opts.maxIter) (ho : opts.optStatic = true) (h : assemble opts fs roots = .ok res) :
    ∃ st nodes defs0 d, frontEnd opts fs roots = .ok (st, nodes, defs0) ∧ ReadFrom st nodes d res ∧
      FullFixedPoint st nodes d := by
  obtain ⟨st, nodes, defs0, k, d, hf, hr, hread⟩ := assemble_run h
  have hst : st.opts = opts := (frontEnd_opts opts fs roots st nodes defs0 hf).1
  obtain ⟨r, pre, hfix, hrep⟩ := resolveIterativelyN_full_fixed_point_any st nodes defs0
    (frontEnd_frontOK opts ho fs roots st nodes defs0 hf) opts.maxIter hb (by rw [hst]; exact ho)
    (frontEnd_noClash opts fs roots st nodes defs0 hf) (frontEnd_uniq opts fs roots st nodes defs0 hf)
    (frontEnd_nodesOK opts fs roots st nodes defs0 hf) k d [] hr
  obtain rfl : r = [] := (List.append_eq_nil_iff.mp hrep.symm).2
  exact ⟨st, nodes, defs0, d, hf, hread, hfix⟩

theorem success_recomputes_everything (opts : Opts) (fs : SrcFiles) (roots : List (List Char)) (res : AsmOk)
    (hb : 2 ≤ opts.maxIter) (ho : opts.optStatic = true) (h : assemble opts fs roots = .ok res) :
    ∃ st nodes defs0 d, frontEnd opts fs roots = .ok (st, nodes, defs0) ∧ ReadFrom st nodes d res ∧
      FullFixedPoint st nodes d :=
  success_recomputes_everything_at_every_budget opts fs roots res (by omega) ho h

/-- **In a fixed point every item recomputes to itself**: each node of the program, at its own
    position, is resolved on the final state `d` and returns `d`, stable. -/
theorem fixed_point_recomputes_every_item (st : Static) (nodes : List AstNode) (d : Defs)
    (hfix : FixedPoint st nodes d) (hok : NodesOK d nodes) (pre post : List AstNode) (n : AstNode) (hsplit : nodes = pre ++ n :: post) :
    ∃ ps ps1, passNodes st false true pre ⟨d, initIter d.banks, [], true, []⟩ = .ok ps ∧ ps.defs = d ∧
      passNodes.go st false true n 0 (nodeElems n) ps = .ok ps1 ∧ ps1.defs = d ∧ ps1.stable = true :=
  fixed_point_at_every_node st nodes true d [] hfix hok pre post n hsplit

/-- **The statement of C02 for instructions, end to end.**  In a fixed point, every instruction
    that is not short-cut by the static optimisation satisfies: evaluating all its candidate
    rules on the *final* state, at the instruction's own position, in strict mode, resolves some
    of them to sized encodings `rs`; exactly one of those has the smallest size; and that one is
    the encoding stored for (and emitted by) the instruction. -/
theorem emitted_instruction_is_unique_smallest (st : Static) (nodes : List AstNode) (d : Defs)
    (hfix : FixedPoint st nodes d) (hok : NodesOK d nodes)
    (pre post : List AstNode) (src : List Char) (ref : Nat) (hsplit : nodes = pre ++ AstNode.instr src (some ref) :: post)
    (hin : ref < d.instrs.length) (hunres : (d.instrs.getD ref default).resolved = false) :
    ∃ (ctx : RCtx) (rs : List Resolution) (c : ECtx) (i : Nat),
      ctx.first = false ∧ ctx.last = true ∧
      resolveMatches st d (evalFuel - 1) ctx ((d.instrs.getD ref default).cands.map (·.m)) {} [] = .ok (rs, c) ∧
      chooseEncoding false rs = (some [(i, (d.instrs.getD ref default).encoding)], []) ∧
      (∀ j b, j < rs.length → rs.getD j .unresolved = .resolved b →
        (d.instrs.getD ref default).encoding.size.getD 0 ≤ b.size.getD 0) := by
  obtain ⟨ps, it, r, _, _, hdisp⟩ := fixed_point_dispatch st nodes true d [] hfix hok pre post _ hsplit (Nat.le_refl 1)
  obtain ⟨encs, rep, e, henc, hhead, hstored⟩ :=
    Casm.C01.instruction_emits_choice st d d _ ref true r hunres hin hdisp rfl
  rw [resolveEncoding_evalFuel] at henc
  obtain ⟨⟨rs, c⟩, hm, henc⟩ := map_ok _ _ _ henc
  obtain ⟨e1, rfl⟩ := Casm.C01.strict_unique_choice rs encs rep henc
  obtain rfl : e1 = e := Option.some.inj hhead
  obtain rfl : rep = [] := (Casm.C01.choose_some henc).2.1
  rw [hstored]
  exact ⟨_, rs, c, e1.1, rfl, rfl, hm, henc, Casm.C01.chosen_are_smallest false rs [e1] [] henc e1.1 e1.2 (by simp)⟩

/-- **The statement of C02 for labels.**  In a fixed point every label's final value is the
    address of the position the pass has reached when it arrives at the label (the position at
    which the following item is laid out), computed in strict mode from the final state. -/
theorem label_value_is_its_position (st : Static) (nodes : List AstNode) (d : Defs)
    (hfix : FixedPoint st nodes d) (hok : NodesOK d nodes)
    (pre post : List AstNode) (level : Nat) (name : String) (ne : Bool) (ref : Nat)
    (hsplit : nodes = pre ++ AstNode.symbol level name .label ne (some ref) :: post) (hin : ref < d.symbols.length) :
    ∃ (ps : PassSt) (it : IterSt) (a : Int),
      passNodes st false true pre ⟨d, initIter d.banks, [], true, []⟩ = .ok ps ∧
      visit d.banks ps.it (.label (st.decls.symbols.decls.getD ref default).depth
          (match (d.sym ref).value with | .int b => b.v | _ => 0)) = .ok it ∧
      evalAddress d ⟨false, true, (st.decls.symbols.decls.getD ref default).ctx, it.bank, it.pos⟩ false = .ok a ∧
      (d.sym ref).value = .int ⟨a, none⟩ := by
  obtain ⟨ps, it, r, hpre, hv, hdisp⟩ := fixed_point_dispatch st nodes true d [] hfix hok pre post _ hsplit (Nat.le_refl 1)
  have hdisp' : resolveLabel st d ⟨false, true, (st.decls.symbols.decls.getD ref default).ctx, it.bank, it.pos⟩ ref =
      .ok (d, true, r) := hdisp
  obtain ⟨a, ha, hval⟩ := Casm.C01.label_is_address st d d _ ref true r hin hdisp'
  exact ⟨ps, it, a, hpre, hv, ha, hval⟩

/-- **the front end never lets a constant and a label share a symbol slot** -/
theorem front_end_never_clashes (opts : Opts) (fs : SrcFiles) (roots : List (List Char)) (st : Static) (nodes : List AstNode) (defs : Defs)
    (h : frontEnd opts fs roots = .ok (st, nodes, defs)) : NoClash nodes :=
  frontEnd_noClash opts fs roots st nodes defs h

/-- `NoClash` is also decidable; the certificate of every correspondence run evaluates it -/
theorem noClash_of_refsWF (nodes : List AstNode) (h : refsWF nodes = true) : NoClash nodes := refsWF_noClash nodes h

theorem nodesOK_unfreeze (d : Defs) (nodes : List AstNode) (h : NodesOK d nodes) : NodesOK d.unfreeze nodes :=
  fun n hn => (NodeOK_congr (d := d) (d' := d.unfreeze) rfl n).mpr (h n hn)

/-- **The statement of C02 for instructions, end to end and without exception.**  Whenever the
    optimised assembler succeeds (any budget of at least one pass), *every* instruction of the program — whether or not
    the static optimisation froze it in the first pass — satisfies: evaluating all its candidate
    rules on the final state, at the instruction's own position, in strict mode, resolves some of
    them; exactly one of those has the smallest size; and that one is the emitted encoding. -/
theorem every_emitted_instruction_is_unique_smallest (opts : Opts) (fs : SrcFiles) (roots : List (List Char)) (res : AsmOk)
    (hb : 1 ≤ opts.maxIter) (ho : opts.optStatic = true) (h : assemble opts fs roots = .ok res) :
    ∃ st nodes defs0 d, frontEnd opts fs roots = .ok (st, nodes, defs0) ∧ ReadFrom st nodes d res ∧
      ∀ (pre post : List AstNode) (src : List Char) (ref : Nat), nodes = pre ++ AstNode.instr src (some ref) :: post →
        ref < d.instrs.length →
        ∃ (ctx : RCtx) (rs : List Resolution) (c : ECtx) (i : Nat),
          ctx.first = false ∧ ctx.last = true ∧
          resolveMatches st d.unfreeze (evalFuel - 1) ctx ((d.instrs.getD ref default).cands.map (·.m)) {} [] = .ok (rs, c) ∧
          chooseEncoding false rs = (some [(i, (d.instrs.getD ref default).encoding)], []) ∧
          (∀ j b, j < rs.length → rs.getD j .unresolved = .resolved b →
            (d.instrs.getD ref default).encoding.size.getD 0 ≤ b.size.getD 0) := by
  obtain ⟨st, nodes, defs0, d, hf, hread, hfull⟩ := success_recomputes_everything_at_every_budget opts fs roots res hb ho h
  refine ⟨st, nodes, defs0, d, hf, hread, fun pre post src ref hsplit hin => ?_⟩
  have hwf : NoClash nodes := frontEnd_noClash opts fs roots st nodes defs0 hf
  have hok : NodesOK d.unfreeze nodes := pass_establishes_ok st nodes false true d.unfreeze d.unfreeze true [] hfull hwf
  have hin' : ref < d.unfreeze.instrs.length := by simpa [Defs.unfreeze] using hin
  have hun : (d.unfreeze.instrs.getD ref default).resolved = false := by rw [unfreeze_instr]
  obtain ⟨ctx, rs, c, i, h1, h2, h3, h4, h5⟩ :=
    emitted_instruction_is_unique_smallest st nodes d.unfreeze hfull hok pre post src ref hsplit hin' hun
  rw [unfreeze_instr] at h3 h4 h5
  exact ⟨ctx, rs, c, i, h1, h2, h3, h4, h5⟩

end Casm.C02
