import Casm.Model.HashOrder
import Casm.Gen.HashSites
/-!
# C10 — assembly is a deterministic function of its inputs

The model is a function of its inputs: it has no clock, no environment, no global state.
Non-determinism could only enter where the Rust code iterates a hash container, whose
order depends on the per-process random seed.  The translator lists every such site
(`Gen.hashIterationSites`) and every piece of global state (`Gen.globalState`); the
theorems below show that each listed site computes the same result for every iteration
order, and that the list is exactly the modelled one — a new iteration site or a new
global is an undischarged obligation.
-/
namespace Casm.C10

/-- the iteration sites are exactly the four modelled ones -/
theorem hash_sites_are_the_modelled_ones : Gen.hashIterationSites =
    [ ("src/asm/resolver/eval_asm.rs", "labels", "iter"),
      ("src/expr/eval.rs", "locals", "for"),
      ("src/expr/eval.rs", "token_substs", "for"),
      ("src/util/symbol_format.rs", "children", "iter") ] := rfl

/-- no mutable statics, thread-locals, clocks, environment reads or randomness in `src/` -/
theorem no_global_state : Gen.globalState = [] := rfl

/-! ## symbol listing: sorted by the unique declaration index -/

theorem insertByIndex_perm {α} (x : α × Nat) (l : List (α × Nat)) : (insertByIndex x l).Perm (x :: l) := by
  induction l with
  | nil => exact List.Perm.refl _
  | cons y ys ih =>
    simp only [insertByIndex]
    split
    · exact List.Perm.refl _
    · exact ((List.Perm.cons y ih).trans (List.Perm.swap x y ys))

theorem sortByIndex_perm {α} (l : List (α × Nat)) : (sortByIndex l).Perm l := by
  induction l with
  | nil => exact List.Perm.refl _
  | cons x xs ih => exact (insertByIndex_perm x _).trans (List.Perm.cons x ih)

theorem insertByIndex_sorted {α} (x : α × Nat) (l : List (α × Nat))
    (h : l.Pairwise (fun a b => a.2 ≤ b.2)) : (insertByIndex x l).Pairwise (fun a b => a.2 ≤ b.2) := by
  induction l with
  | nil => exact List.pairwise_singleton _ _
  | cons y ys ih =>
    rw [List.pairwise_cons] at h
    rw [insertByIndex]
    split
    next hxy =>
      exact .cons (List.forall_mem_cons.2 ⟨hxy, fun b hb => Nat.le_trans hxy (h.1 b hb)⟩) (.cons h.1 h.2)
    next hxy =>
      refine .cons (fun b hb => ?_) (ih h.2)
      rcases List.mem_cons.1 ((insertByIndex_perm x ys).subset hb) with rfl | hb'
      · exact Nat.le_of_not_le hxy
      · exact h.1 b hb'

theorem sortByIndex_sorted {α} (l : List (α × Nat)) : (sortByIndex l).Pairwise (fun a b => a.2 ≤ b.2) := by
  induction l with
  | nil => exact List.Pairwise.nil
  | cons x xs ih => exact insertByIndex_sorted x _ ih

/-- **The symbol listing does not depend on the hash order**: two enumerations of the same
    children (permutations of each other) whose declaration indices are pairwise distinct
    sort to the same list. -/
theorem symbols_order_free {α} (l₁ l₂ : List (α × Nat)) (hp : l₁.Perm l₂)
    (hd : (l₁.map (·.2)).Nodup) : sortByIndex l₁ = sortByIndex l₂ := by
  have hperm : (sortByIndex l₁).Perm (sortByIndex l₂) :=
    (sortByIndex_perm l₁).trans (hp.trans (sortByIndex_perm l₂).symm)
  have strict : ∀ l : List (α × Nat), (l.map (·.2)).Nodup →
      (sortByIndex l).Pairwise (fun a b => a.2 < b.2) := by
    intro l hl
    have hk : ((sortByIndex l).map (·.2)).Nodup := ((sortByIndex_perm l).map _).nodup_iff.2 hl
    have hne := List.pairwise_map.1 hk
    exact ((sortByIndex_sorted l).and hne).imp (fun h => Nat.lt_of_le_of_ne h.1 h.2)
  have hd2 : (l₂.map (·.2)).Nodup := (hp.map _).nodup_iff.1 hd
  exact List.Perm.eq_of_pairwise (le := fun a b => a.2 < b.2)
    (fun a b _ _ h1 h2 => absurd h1 (Nat.lt_asymm h2)) (strict l₁ hd) (strict l₂ hd2) hperm

/-! ## map-to-map copies -/

theorem lookup_insert {κ υ} [DecidableEq κ] (m : AMap κ υ) (k k' : κ) (v : υ) :
    (m.insert k v).lookup k' = if k = k' then some v else m.lookup k' := by
  unfold AMap.insert AMap.lookup
  by_cases h : k = k'
  · subst h; simp
  · -- among the entries with key `k'`, none is filtered out
    have hp : (fun a : κ × υ => decide ((a.1 != k) = true ∧ (a.1 == k') = true)) = (·.1 == k') := by
      funext e
      by_cases he : e.1 = k' <;> simp [he, Ne.symm h]
    rw [List.find?_cons, beq_false_of_ne h, List.find?_filter, hp, if_neg h]

theorem find?_perm {α} (p : α → Bool) {l₁ l₂ : List α} (hp : l₁.Perm l₂)
    (h : l₁.Pairwise fun a b => ¬ (p a = true ∧ p b = true)) : l₁.find? p = l₂.find? p := by
  induction hp with
  | nil => rfl
  | cons x _ ih => simp only [List.find?_cons, ih (List.pairwise_cons.1 h).2]
  | swap x y l =>
    have hyx := (List.pairwise_cons.1 h).1 x List.mem_cons_self
    simp only [List.find?_cons]
    cases hx : p x with
    | false => cases p y <;> rfl
    | true =>
      cases hy : p y with
      | false => rfl
      | true => exact absurd ⟨hy, hx⟩ hyx
  | trans h₁ _ ih₁ ih₂ => exact (ih₁ h).trans (ih₂ (h₁.pairwise h fun hab hba => hab ⟨hba.2, hba.1⟩))

theorem lookup_copyInto {κ υ} [DecidableEq κ] (f : κ → κ) (keep : κ → Bool)
    (entries : List (κ × υ)) (dst : AMap κ υ) (k' : κ) :
    (copyInto f keep entries dst).lookup k' =
      match entries.reverse.find? (fun e => keep e.1 && f e.1 == k') with
      | some e => some e.2
      | none => dst.lookup k' := by
  unfold copyInto
  induction entries generalizing dst with
  | nil => rfl
  | cons e es ih =>
    rw [List.foldl_cons, ih, List.reverse_cons, List.find?_append]
    cases es.reverse.find? (fun e => keep e.1 && f e.1 == k') with
    | some x => rfl
    | none => by_cases hk : keep e.1 = true <;> by_cases he : f e.1 = k' <;> simp [hk, he, lookup_insert]

/-- **Map copies do not depend on the hash order**: visiting the same entries (distinct
    keys) in any two orders yields maps that agree on every key.  Covers
    `hygienize_locals_for_asm_subst` (renaming with the injective `__` prefix, skipping
    already-prefixed names) and the label binding of asm blocks. -/
theorem copy_order_free {κ υ} [DecidableEq κ] (f : κ → κ) (keep : κ → Bool) (hf : Function.Injective f)
    (e₁ e₂ : List (κ × υ)) (hp : e₁.Perm e₂) (hd : (e₁.map (·.1)).Nodup) (dst : AMap κ υ) (k' : κ) :
    (copyInto f keep e₁ dst).lookup k' = (copyInto f keep e₂ dst).lookup k' := by
  rw [lookup_copyInto, lookup_copyInto]
  congr 1
  -- keys are distinct and `f` is injective, so at most one entry is renamed to `k'`: last or first, in any order
  refine find?_perm _ ((List.reverse_perm e₁).trans (hp.trans (List.reverse_perm e₂).symm))
    ((List.reverse_perm e₁).symm.pairwise ((List.pairwise_map.1 hd).imp fun hne h => ?_) fun hab hba => hab ⟨hba.2, hba.1⟩)
  simp only [Bool.and_eq_true, beq_iff_eq] at h
  exact hne (hf (h.1.2.trans h.2.2.symm))

/-- the renaming used by `hygienize_name_for_asm_subst` is injective -/
theorem prefix_injective (p : List Char) : Function.Injective (fun s : List Char => p ++ s) :=
  fun _ _ h => List.append_cancel_left h

example : sortByIndex [("c", 7), ("a", 2), ("b", 5)] = sortByIndex [("b", 5), ("c", 7), ("a", 2)] := by decide +kernel

end Casm.C10
