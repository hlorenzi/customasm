import Casm.Proofs.CondLoop
/-!
# C16 — conditional assembly and command-line defines select exactly one world

About the model of the first loop of `asm::assemble` (`resolveIfs`, `checkLeftoverIfs`,
`resolveConstantsSimple`, `checkUnusedDefines`).

* `resolveIfs_splices` — one round of `resolve_ifs` replaces, in place and in order, every
  conditional whose condition evaluates to `true` by exactly its first arm and every one whose
  condition evaluates to `false` by exactly its else-part (an `#elif` chain is the nested
  conditional in the else-part) or by nothing; everything else stays.  Hence nothing of an
  unselected arm survives (`dead_arm_dropped`).  (`AstNode.fresh` marks that spliced nodes carry
  no item reference yet — the identity on what the parser produces.)
* `leftover_conditional_is_error` — a conditional that is still there when the loop stops is
  an error, whatever its condition evaluates to.
* `define_overrides_constant` / `resolved_constant_is_kept` — a define replaces the value of the
  constant of that name and marks it resolved; the iterative resolver never re-evaluates a
  resolved constant.
* `unused_define_is_error` — a successful assembly has no unused define.
* **the whole loop** — `conditionals_are_selected_by_the_final_state`: whenever the front end succeeds, the
  node list that goes on to be assembled is (item references aside) the parsed program with every conditional,
  nested to any depth, replaced by the arm its conditions select *as evaluated in the one final state of the
  loop* (`Sel`, `selected_true_arm`, `selected_false_arm`), and no conditional is left.  The loop decides
  conditionals round by round, each in the state of its round; `decided_condition_is_stable` (a definite value
  of `eval_simple` is its value in every later state: `eval_definite` in `EvalMono`, `EvalSimple`) and
  `every_round_leads_to_a_later_state` (names only grow, a definite value is re-evaluated to itself or not at all:
  `CondValues`) make the two the same (`declLoop_selects` in `CondLoop`).
-/
namespace Casm.C16

/-- **one round splices exactly the selected arms, in place** -/
theorem resolveIfs_splices (d : Decls) (defs : Defs) (nodes out : List AstNode) (k : Nat)
    (h : resolveIfs d defs nodes = .ok (out, k)) : out = nodes.flatMap (spliceOne d defs) :=
  (resolveIfs_ok h).1

theorem spliceOne_decided (d : Decls) (defs : Defs) (cond : Expr) (t : List AstNode) (f : Option (List AstNode)) (b : Bool)
    (h : evalSimple d defs cond = .ok (.bool b)) :
    spliceOne d defs (.ifDir cond t f) = (bif b then t else f.getD []).map AstNode.fresh := by
  cases b <;> simp only [spliceOne, h, cond_true, cond_false]

/-- a conditional whose condition is true contributes exactly its first arm — nothing of the
    else-part (which holds every `#elif`/`#else`) -/
theorem true_arm_only (d : Decls) (defs : Defs) (cond : Expr) (t : List AstNode) (f : Option (List AstNode))
    (h : evalSimple d defs cond = .ok (.bool true)) : spliceOne d defs (.ifDir cond t f) = t.map AstNode.fresh :=
  spliceOne_decided d defs cond t f true h

/-- …and one whose condition is false contributes exactly its else-part, or nothing -/
theorem false_arm_only (d : Decls) (defs : Defs) (cond : Expr) (t : List AstNode) (f : Option (List AstNode))
    (h : evalSimple d defs cond = .ok (.bool false)) : spliceOne d defs (.ifDir cond t f) = (f.getD []).map AstNode.fresh :=
  spliceOne_decided d defs cond t f false h

/-- a program that is a single decided conditional becomes its selected arm: the dead arm is gone -/
theorem dead_arm_dropped (d : Decls) (defs : Defs) (cond : Expr) (t e out : List AstNode) (k : Nat)
    (hc : evalSimple d defs cond = .ok (.bool true))
    (h : resolveIfs d defs [.ifDir cond t (some e)] = .ok (out, k)) : out = t.map AstNode.fresh := by
  rw [resolveIfs_splices d defs _ out k h, List.flatMap_singleton, true_arm_only d defs cond t _ hc]

/-- **a conditional that cannot be decided from constants is an error** -/
theorem leftover_conditional_is_error (d : Decls) (defs : Defs) (nodes : List AstNode) (cond : Expr) (t : List AstNode)
    (f : Option (List AstNode)) (h : AstNode.ifDir cond t f ∈ nodes) :
    ∃ m, checkLeftoverIfs d defs nodes = .error m := by
  unfold checkLeftoverIfs
  cases hf : nodes.find? (fun n => match n with | .ifDir _ _ _ => true | _ => false) with
  | none => exact absurd rfl (List.find?_eq_none.mp hf _ h)
  | some n =>
    cases n with
    | ifDir c t' f' =>
      simp only
      cases evalCertain d defs c with
      | error m => exact ⟨m, rfl⟩
      | ok v => exact ⟨_, rfl⟩
    | _ => cases List.find?_some hf

/-- **a define replaces the value of the constant of that name** (one constant node, one round) -/
theorem define_overrides_constant (opts : Opts) (d : Decls) (defs : Defs) (level : Nat) (name : String) (e : Expr) (ne : Bool) (r : Nat)
    (dv : String × Value)
    (hunres : (defs.sym r).resolved = false)
    (hdef : opts.defines.find? (·.1 == (d.symbols.decls.getD r default).name) = some dv) :
    resolveConstantsSimple opts d defs [.symbol level name (.constant e) ne (some r)] =
      .ok (defs.setSym r { defs.sym r with value := dv.2, resolved := true }, 1) := by
  unfold resolveConstantsSimple
  dsimp only [List.foldl]
  rw [hunres, if_neg Bool.false_ne_true, hdef]

/-- the iterative resolver never re-evaluates a constant that is marked resolved -/
theorem resolved_constant_is_kept (st : Static) (defs : Defs) (ctx : RCtx) (r : Nat) (e : Expr)
    (h : (defs.sym r).resolved = true) : resolveConstant st defs ctx r e = .ok (defs, true, []) := by
  unfold resolveConstant
  exact if_pos h

/-- **a define that names no declared constant is an error** -/
theorem unused_define_is_error (opts : Opts) (fs : SrcFiles) (roots : List (List Char)) (res : AsmOk)
    (h : assemble opts fs roots = .ok res) :
    ∀ st nodes defs, frontEnd opts fs roots = .ok (st, nodes, defs) → checkUnusedDefines opts st.decls = [] := by
  intro st nodes defs hf
  obtain ⟨_, _, _, _, _, _, hf', _, _, hu, _⟩ := assemble_ok h
  rw [hf] at hf'
  cases hf'
  exact hu

/-! ## the whole loop -/

/-- **a condition decided once stays decided**: the value `eval_simple` gives a condition (or any expression) in
    some round is the value it gives in every later state of the loop — names that resolve keep resolving to the
    same declaration, symbols that hold a definite value keep it -/
theorem decided_condition_is_stable (d : Decls) (defs : Defs) (d' : Decls) (defs' : Defs) (h : Later d defs d' defs')
    (cond : Expr) (b : Bool) (hc : evalSimple d defs cond = .ok (.bool b)) : evalSimple d' defs' cond = .ok (.bool b) :=
  evalSimple_later d defs d' defs' h cond (.bool b) hc rfl

/-- **every round of the loop leads to a later state** (declarations are only added; a constant that holds a
    definite value is re-evaluated to that value or not at all) -/
theorem every_round_leads_to_a_later_state {opts : Opts} {d d1 : Decls} {defs defs2 : Defs} {nodes n1 : List AstNode} {cnt : Nat}
    (f : FInv opts d defs nodes) (c : CInv opts d defs nodes) (hb : Built d.symbols)
    (hc : collectAll d nodes = .ok (d1, n1))
    (hr : resolveConstantsSimple opts d1 (defineSymbols defs n1) n1 = .ok (defs2, cnt)) : Later d defs d1 defs2 :=
  (round_later f c hb hc hr).1

/-- **C16 for the whole loop.**  Whenever the front end succeeds, the node list that goes on to be assembled is —
    item references aside — the parsed program with every `#if`/`#elif`/`#else` chain, nested to any depth, replaced by
    exactly the arm that the conditions select **as evaluated in the one final state of the loop** (`Sel`); no
    conditional is left.  The loop decides conditionals round by round, each in the state of its round; that this is
    the same as deciding all of them in the final state is `decided_condition_is_stable`. -/
theorem conditionals_are_selected_by_the_final_state (opts : Opts) (fs : SrcFiles) (roots : List (List Char))
    (d : Decls) (defs : Defs) (nodes : List AstNode) (hp : frontEndPre opts fs roots = .ok (d, defs, nodes)) :
    ∃ parsed defsL nodesL, parseMany fs roots = .ok parsed ∧
      Sel d defsL (parsed.map AstNode.fresh) (nodesL.map AstNode.fresh) ∧
      (∀ n ∈ nodesL, ∀ c t f, n ≠ .ifDir c t f) ∧
      defineRemaining d defsL nodesL = .ok (defs, nodes) := by
  obtain ⟨parsed, bm, _, defsL, nodesL, hpm, hl, hleft, hdr⟩ := frontEndPre_ok hp
  obtain ⟨_, hsel, _⟩ := declLoop_selects opts _ _ _ _ _ _ _ _ (FInv.init opts { banks := bm } parsed).1 (CInv.init opts _ parsed)
    (Built.new "symbol") hl
  refine ⟨parsed, defsL, nodesL, hpm, ?_, ?_, hdr⟩
  · rw [map_fresh_fresh] at hsel; exact hsel
  · intro n hn c t f he
    subst he
    obtain ⟨m, hm⟩ := leftover_conditional_is_error d defsL nodesL c t f hn
    rw [hm] at hleft
    cases hleft

/-- a conditional does not occur in its own arms: it is larger than both -/
theorem no_self_arm (c : Expr) (t : List AstNode) (f : Option (List AstNode)) (b : Bool) :
    AstNode.ifDir c t f ∉ (bif b then t else f.getD []) := by
  intro ha
  have hlt := List.sizeOf_lt_of_mem ha
  rw [AstNode.ifDir.sizeOf_spec] at hlt
  match b, f with
  | true, _ => have : _ < sizeOf t := hlt; omega
  | false, none => cases ha
  | false, some e => have : _ < sizeOf e := hlt; rw [Option.some.sizeOf_spec] at this; omega

theorem fresh_eq_ifDir {a : AstNode} {c : Expr} {t : List AstNode} {f : Option (List AstNode)}
    (h : a.fresh = .ifDir c t f) : a = .ifDir c t f := by
  cases a with
  | ifDir => exact h
  | _ => cases h

theorem selected_arm (d : Decls) (defs : Defs) (c : Expr) (t : List AstNode) (f : Option (List AstNode)) (o : List AstNode) (b : Bool)
    (hc : evalSimple d defs c = .ok (.bool b)) (h : SelNode d defs (.ifDir c t f) o) :
    Sel d defs ((bif b then t else f.getD []).map AstNode.fresh) o := by
  cases h with
  | yes ht hs => rw [hc] at ht; cases ht; exact hs
  | no hf hs => rw [hc] at hf; cases hf; exact hs
  | keep hk =>
    -- kept as it is, it would be the only node of its own selected arm
    rw [spliceOne_decided d defs c t f b hc] at hk
    obtain ⟨a, ha, hfa⟩ := List.mem_map.mp (hk ▸ List.mem_singleton_self _ : AstNode.ifDir c t f ∈ _)
    exact absurd (fresh_eq_ifDir hfa ▸ ha) (no_self_arm c t f b)

/-- what `Sel` says of one conditional: if the final state decides its condition true, exactly the selection of its
    first arm is there — nothing of the else-part… -/
theorem selected_true_arm (d : Decls) (defs : Defs) (c : Expr) (t : List AstNode) (f : Option (List AstNode)) (o : List AstNode)
    (hc : evalSimple d defs c = .ok (.bool true)) (h : SelNode d defs (.ifDir c t f) o) : Sel d defs (t.map AstNode.fresh) o :=
  selected_arm d defs c t f o true hc h

/-- …and if it decides the condition false, exactly the selection of the else-part (every `#elif`/`#else`), or nothing -/
theorem selected_false_arm (d : Decls) (defs : Defs) (c : Expr) (t : List AstNode) (f : Option (List AstNode)) (o : List AstNode)
    (hc : evalSimple d defs c = .ok (.bool false)) (h : SelNode d defs (.ifDir c t f) o) :
    Sel d defs ((f.getD []).map AstNode.fresh) o :=
  selected_arm d defs c t f o false hc h

/-- `Sel` at work: `#if true { #if false { A } #else { B } }` selects `B` and nothing else, in every state -/
example (d : Decls) (defs : Defs) :
    Sel d defs [.ifDir (.lit (.bool true)) [.ifDir (.lit (.bool false)) [.once] (some [.include []])] none] [.include []] :=
  -- the derivation, inside out: `B` is kept, the inner condition is false, the outer true
  have keepB : Sel d defs [.include []] [.include []] := Sel.cons (o := [.include []]) (.keep rfl) .nil
  have inner : Sel d defs [.ifDir (.lit (.bool false)) [.once] (some [.include []])] [.include []] :=
    Sel.cons (o := [.include []]) (.no rfl keepB) .nil
  Sel.cons (o := [.include []]) (.yes rfl inner) .nil

/-- **every define names a declared constant** whenever the check for unused defines passes (finding F46, repaired:
    a label or a function of that name used to satisfy it) -/
theorem every_define_names_a_constant (opts : Opts) (d : Decls) (h : checkUnusedDefines opts d = []) :
    ∀ dv ∈ opts.defines, ∃ r, d.symbols.tryGetByName [] 0 ((splitOnChar '.' dv.1.toList).map String.ofList) = some r ∧
      (d.symbols.decls.getD r default).kind = .constant := by
  intro dv hdv
  unfold checkUnusedDefines at h
  have hnone := List.filterMap_eq_nil_iff.mp h dv hdv
  simp only at hnone
  cases hr : d.symbols.tryGetByName [] 0 ((splitOnChar '.' dv.1.toList).map String.ofList) with
  | none => rw [hr] at hnone; cases hnone
  | some r =>
    rw [hr] at hnone
    dsimp only at hnone
    refine ⟨r, rfl, ?_⟩
    cases hk : (d.symbols.decls.getD r default).kind with
    | constant => rfl
    | _ => rw [hk] at hnone; cases hnone

end Casm.C16
