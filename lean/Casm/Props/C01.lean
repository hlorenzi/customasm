import Casm.Proofs.ItemStep
/-!
# C01 — assembled bits equal the language definition (size-static programs)

The rule-level clauses of the definition, as theorems about the model's resolver:

* `chosen_are_resolved` / `chosen_are_smallest` — what `resolve_encoding` selects are candidates
  whose production evaluated to a sized integer, all of one size, and no resolved candidate is
  smaller;
* `strict_unique_choice` — in a strict pass (the kind that confirms every successful assembly,
  C02) a choice is made only if exactly one candidate has the smallest size; `strict_tie_is_error`
  and `strict_nothing_resolved_is_error` are the two rejections ("two equally small rules
  match", "no rule's constraints hold");
* `instruction_emits_choice` — the instruction's stored encoding is that unique choice;
* `label_is_address` — a label's value is the address of its own position in its bank;
* that a `#dN` element emits the low `N` bits of a value that fits them and rejects any other is
  C04 (`Casm.C04.data_emit`, `data_never_truncates`, `data_accept_sized`).

Positions of the emitted bits: C06 (`build_output_safe`, `position_formula`).  The end-to-end
equality with the definition for whole programs is left to the search: generator-side oracle vs
implementation vs model.
-/
namespace Casm.C01

theorem mem_resolvedOf {rs : List Resolution} {i : Nat} {b : BI} :
    (i, b) ∈ resolvedOf rs ↔ i < rs.length ∧ rs.getD i .unresolved = .resolved b := by
  unfold resolvedOf
  simp only [List.mem_filterMap, List.mem_range]
  constructor
  · rintro ⟨j, hj, h⟩
    split at h
    · rename_i hb; cases h; exact ⟨hj, hb⟩
    · cases h
  · rintro ⟨hi, h⟩
    exact ⟨i, hi, by rw [h]⟩

theorem foldl_min_least (l : List Nat) (a : Nat) : l.foldl min a ∈ a :: l ∧ ∀ b ∈ a :: l, l.foldl min a ≤ b :=
  List.min?_eq_some_iff.mp List.min?_cons'

/-- the size `resolve_encoding` takes as "smallest" -/
def smallestSize (rs : List Resolution) : Nat :=
  ((resolvedOf rs).map fun e => e.2.size.getD 0).foldl min (((resolvedOf rs).headD (0, default)).2.size.getD 0)

theorem smallestSize_attained {rs : List Resolution} (h : (resolvedOf rs).isEmpty = false) :
    ∃ e ∈ resolvedOf rs, e.2.size.getD 0 = smallestSize rs := by
  unfold smallestSize
  cases hr : resolvedOf rs with
  | nil => rw [hr] at h; cases h
  | cons e t =>
    -- the fold starts at the head's size, and the head is in the list again: either way the result is a member's size
    have := (foldl_min_least ((e :: t).map fun e => e.2.size.getD 0) (e.2.size.getD 0)).1
    rw [List.headD_cons]
    rcases List.mem_cons.mp this with h | h
    · exact ⟨e, List.mem_cons_self, h.symm⟩
    · obtain ⟨x, hx, hs⟩ := List.mem_map.mp h
      exact ⟨x, hx, hs⟩

theorem chooseEncoding_of_resolved (g : Bool) {rs : List Resolution} (h : (resolvedOf rs).isEmpty = false) :
    chooseEncoding g rs =
      if !g && ((resolvedOf rs).filter (fun e => e.2.size.getD 0 == smallestSize rs)).length > 1 then
        (none, ["multiple matches with the same encoding size"])
      else (some ((resolvedOf rs).filter (fun e => e.2.size.getD 0 == smallestSize rs)), []) := by
  unfold chooseEncoding
  simp only [h, Bool.false_eq_true, if_false]
  rfl

theorem choose_some {g : Bool} {rs : List Resolution} {chosen : List (Nat × BI)} {rep : List String}
    (h : chooseEncoding g rs = (some chosen, rep)) :
    chosen = (resolvedOf rs).filter (fun e => e.2.size.getD 0 == smallestSize rs) ∧ rep = [] ∧
    (resolvedOf rs).isEmpty = false ∧ (g = false → chosen.length ≤ 1) := by
  cases hne : (resolvedOf rs).isEmpty with
  | true =>
    unfold chooseEncoding at h
    simp only [hne, if_true] at h
    split at h <;> cases h
  | false =>
    rw [chooseEncoding_of_resolved g hne] at h
    split at h
    · cases h
    · rename_i hc
      cases h
      refine ⟨rfl, rfl, rfl, fun hg => ?_⟩
      subst hg
      simpa using hc

/-- **every selected encoding is a resolved candidate** -/
theorem chosen_are_resolved (g : Bool) (rs : List Resolution) (chosen : List (Nat × BI)) (rep : List String)
    (h : chooseEncoding g rs = (some chosen, rep)) (i : Nat) (b : BI) (hm : (i, b) ∈ chosen) :
    i < rs.length ∧ rs.getD i .unresolved = .resolved b := by
  rw [(choose_some h).1] at hm
  exact mem_resolvedOf.mp (List.mem_filter.mp hm).1

/-- **the selected encodings have one size, and no resolved candidate is smaller** -/
theorem chosen_are_smallest (g : Bool) (rs : List Resolution) (chosen : List (Nat × BI)) (rep : List String)
    (h : chooseEncoding g rs = (some chosen, rep)) (i : Nat) (b : BI) (hm : (i, b) ∈ chosen) :
    ∀ j c, j < rs.length → rs.getD j .unresolved = .resolved c → b.size.getD 0 ≤ c.size.getD 0 := by
  intro j c hj hc
  rw [(choose_some h).1] at hm
  rw [show b.size.getD 0 = smallestSize rs by simpa using (List.mem_filter.mp hm).2]
  exact (foldl_min_least _ _).2 _ (List.mem_cons_of_mem _ (List.mem_map.mpr ⟨(j, c), mem_resolvedOf.mpr ⟨hj, hc⟩, rfl⟩))

/-- **strict pass: a choice is made only when it is unique** -/
theorem strict_unique_choice (rs : List Resolution) (chosen : List (Nat × BI)) (rep : List String)
    (h : chooseEncoding false rs = (some chosen, rep)) : ∃ e, chosen = [e] := by
  obtain ⟨hc, _, hne, hl⟩ := choose_some h
  -- at most one by strictness, at least one because the smallest size is attained
  obtain ⟨e, he, hs⟩ := smallestSize_attained hne
  have hm : e ∈ chosen := hc ▸ List.mem_filter.mpr ⟨he, by simpa using hs⟩
  exact List.length_eq_one_iff.mp (Nat.le_antisymm (hl rfl) (List.length_pos_of_mem hm))

/-- **two equally small rules match ⇒ rejected in a strict pass** -/
theorem strict_tie_is_error (rs : List Resolution) (i j : Nat) (b c : BI) (hij : i ≠ j)
    (hi : (i, b) ∈ resolvedOf rs) (hj : (j, c) ∈ resolvedOf rs)
    (hb : b.size.getD 0 = smallestSize rs) (hc : c.size.getD 0 = smallestSize rs) :
    chooseEncoding false rs = (none, ["multiple matches with the same encoding size"]) := by
  have heq := chooseEncoding_of_resolved false (List.isEmpty_eq_false_iff_exists_mem.mpr ⟨_, hi⟩)
  rw [heq]
  split
  · rfl
  · -- otherwise the unique choice would be both candidates at once
    rename_i hn
    rw [if_neg hn] at heq
    obtain ⟨e, he⟩ := strict_unique_choice rs _ [] heq
    have h1 : (i, b) ∈ [e] := he ▸ List.mem_filter.mpr ⟨hi, by simpa using hb⟩
    have h2 : (j, c) ∈ [e] := he ▸ List.mem_filter.mpr ⟨hj, by simpa using hc⟩
    rw [List.mem_singleton] at h1 h2
    exact absurd (congrArg Prod.fst (h1.trans h2.symm)) hij

/-- **no candidate resolves ⇒ rejected in a strict pass** -/
theorem strict_nothing_resolved_is_error (rs : List Resolution) (h : resolvedOf rs = []) :
    ∃ m, chooseEncoding false rs = (none, [m]) := by
  unfold chooseEncoding
  simp only [h, List.isEmpty_nil, if_true, Bool.not_false]
  exact ⟨_, rfl⟩

/-- **the instruction stores the chosen encoding** -/
theorem instruction_emits_choice (st : Static) (defs defs' : Defs) (ctx : RCtx) (ref : Nat) (stable : Bool) (rep : List String)
    (hres : (defs.instrs.getD ref default).resolved = false)
    (hin : ref < defs.instrs.length)
    (h : resolveInstruction st defs ctx ref = .ok (defs', stable, rep)) (hst : stable = true) :
    ∃ encs reported e, resolveEncoding st defs evalFuel ctx ((defs.instrs.getD ref default).cands.map (·.m)) {} = .ok (some encs, reported) ∧
      encs.head? = some e ∧ (defs'.instrs.getD ref default).encoding = e.2 := by
  subst hst
  rw [resolveInstruction_eq, hres] at h
  obtain ⟨x, o, he, hs, rfl⟩ := commit_bind_ok h
  have hget : ∀ y : InstrDef, ((instrSlot ref).set defs y).instrs.getD ref default = y := fun y => by
    simp [instrSlot, List.getD_eq_getElem?_getD, hin]
  rcases instrStep_ok hs with ⟨l, e, hl, hd, _, rfl, _⟩ | ⟨l, e, hl, hd, _, rfl, _⟩ | ⟨_, hf, _⟩
  · exact ⟨l, x.2, e, by rw [he, ← hl], hd, congrArg InstrDef.encoding (hget _)⟩
  · exact ⟨l, x.2, e, by rw [he, ← hl], hd, congrArg InstrDef.encoding (hget _)⟩
  · cases hf

/-- **a label equals the address of its position** -/
theorem label_is_address (st : Static) (defs defs' : Defs) (ctx : RCtx) (ref : Nat) (stable : Bool) (rep : List String)
    (hin : ref < defs.symbols.length)
    (h : resolveLabel st defs ctx ref = .ok (defs', stable, rep)) :
    ∃ a, evalAddress defs ctx ctx.canGuess = .ok a ∧ (defs'.sym ref).value = .int ⟨a, none⟩ := by
  rw [resolveLabel_eq] at h
  obtain ⟨a, o, ha, hs, rfl⟩ := commit_bind_ok h
  cases (converge_ok hs).1
  exact ⟨a, ha, by simp [symSlot, Defs.sym, Defs.setSym, hin]⟩

end Casm.C01
