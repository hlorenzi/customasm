import Casm.Model.Resolve
/-!
# Casm.Model.Assemble — `src/asm/mod.rs` (`assemble`), the item resolvers of
`src/asm/resolver/*.rs`, `resolve_once` / `resolve_iteratively`, include expansion,
declaration collection, `#if` splicing, definitions, `match_all`, and output building.
-/
namespace Casm

/-! ## per-item resolvers: `(defs', stable, reported)` -/

abbrev ItemRes := Except String (Defs × Bool × List String)

def valuesStable (a b : Value) : Bool :=
  match a, b with
  | .int x, .int y => x.v == y.v && x.size == y.size
  | x, y => x == y

/-- `resolve_label` -/
def resolveLabel (_st : Static) (defs : Defs) (ctx : RCtx) (ref : Nat) : ItemRes :=
  match evalAddress defs ctx ctx.canGuess with
  | .error e => .error e
  | .ok a =>
    let s := defs.sym ref
    let nv : Value := .int ⟨a, none⟩
    -- (`symbol.bankdef_ref` is only read by the Mesen symbol format; the listing model takes it from the run)
    let defs' := defs.setSym ref { s with value := nv }
    let same := match s.value with
      | .int x => x.v == a
      | _ => false
    if !same then .ok (defs', false, if ctx.last then ["label address did not converge"] else [])
    else .ok (defs', true, [])

/-- `resolve_constant` -/
def resolveConstant (st : Static) (defs : Defs) (ctx : RCtx) (ref : Nat) (e : Expr) : ItemRes :=
  let s := defs.sym ref
  if s.resolved then .ok (defs, true, [])
  else match resolverEval st defs ctx {} e with
    | .error m => .error m
    | .ok (v, _) =>
      let prev := s.value
      -- the first-pass mark does not hide a change of the value (items before this one have not seen it)
      let defs' := defs.setSym ref { s with value := v, resolved := st.opts.optStatic && ctx.first && s.known }
      if !valuesStable v prev then .ok (defs', false, if ctx.last then ["constant value did not converge"] else [])
      else .ok (defs', true, [])

/-- no candidate is still `Unresolved` (it might yet become the smallest encoding) -/
def allDefinite (st : Static) (defs : Defs) (ctx : RCtx) (cands : List IMatch) : Bool :=
  match resolveMatches st defs (evalFuel - 1) ctx cands {} [] with
  | .ok (rs, _) => rs.all fun r => match r with | .unresolved => false | _ => true
  | .error _ => false

/-- `resolve_instruction` -/
def resolveInstruction (st : Static) (defs : Defs) (ctx : RCtx) (ref : Nat) : ItemRes :=
  let ins := defs.instrs.getD ref default
  if ins.resolved then .ok (defs, true, [])
  else match resolveEncoding st defs evalFuel ctx (ins.cands.map (·.m)) {} with
    | .error m => .error m
    | .ok (encs, reported) =>
      let hasAny := encs.isSome
      let single := match encs with | some l => l.length == 1 | none => false
      let chosen : Option BI := encs.bind fun l => l.head?.map (·.2)
      let stable := match chosen with
        | some e => e.v == ins.encoding.v && e.size == ins.encoding.size
        | none => false
      match chosen with
      | some e =>
        if st.opts.optStatic && ctx.first && ins.known && single && allDefinite st defs ctx (ins.cands.map (·.m)) then
          .ok ({ defs with instrs := defs.instrs.set ref { ins with encoding := e, resolved := true } }, true, reported)
        else
          let defs' := { defs with instrs := defs.instrs.set ref { ins with encoding := e } }
          if !stable then
            .ok (defs', false, reported ++ (if ctx.last && hasAny then ["instruction encoding did not converge"] else []))
          else .ok (defs', true, reported)
      | none => .ok (defs, false, reported)

/-- `expect_error_or_bigint` of a data element's value (`must` = the value has to be known now) -/
def dataEnc (must : Bool) (v : Value) : Except String (Option BI) :=
  match v with
  | .int b => .ok (some b)
  | .str s en => .ok (some (strToBigint s en))
  | .unknown => if must then .error "failed to resolve data element" else .ok none
  | .failed msg => if must then .error msg else .ok none
  | _ => .error "expected integer"

/-- the range / definite-size check of a data element -/
def dataCheck (must : Bool) (elemSize : Option Nat) (enc : Option BI) : Except String Unit :=
  if must then
    match enc with
    | some b =>
      match elemSize with
      | some n => if b.sizeOrMin > n then .error "value out of range for directive" else .ok ()
      | none => if b.size.isNone then .error "data element has no definite size" else .ok ()
    | none => .error "panic: unwrap on None"
  else .ok ()

def dataSlice (elemSize : Option Nat) (b : BI) : BI :=
  match elemSize with
  | some n => b.slice n 0
  | none => b.slice b.sizeOrMin 0

/-- storing the sliced value and comparing it with the previous one -/
def dataStore (st : Static) (defs : Defs) (ctx : RCtx) (ref : Nat) (sliced : Option BI) : ItemRes :=
  let d := defs.datas.getD ref default
  match sliced with
  | some b =>
    if st.opts.optStatic && ctx.first && d.known && b.size.isSome then
      .ok ({ defs with datas := defs.datas.set ref { d with encoding := b, resolved := true } }, true, [])
    else
      let defs' := { defs with datas := defs.datas.set ref { d with encoding := b } }
      if !(b.v == d.encoding.v && b.size == d.encoding.size) then
        .ok (defs', false, if ctx.last then ["data element did not converge"] else [])
      else .ok (defs', true, [])
  | none => .ok (defs, false, if ctx.last then ["data element did not converge"] else [])

/-- `resolve_data_element` -/
def resolveData (st : Static) (defs : Defs) (ctx : RCtx) (ref : Nat) (elemSize : Option Nat) (e : Expr) : ItemRes :=
  let d := defs.datas.getD ref default
  if d.resolved then .ok (defs, true, [])
  else match resolverEval st defs ctx {} e with
    | .error m => .error m
    | .ok (v, _) =>
      let must := ctx.last || d.known
      match dataEnc must v with
      | .error m => .error m
      | .ok enc =>
        match dataCheck must elemSize enc with
        | .error m => .error m
        | .ok _ => dataStore st defs ctx ref (enc.map (dataSlice elemSize))

/-- `resolve_res` -/
def resolveRes (st : Static) (defs : Defs) (ctx : RCtx) (ref : Nat) (e : Expr) : ItemRes :=
  match resolverEval st defs ctx {} e with
  | .error m => .error m
  | .ok (v, _) =>
    let n : Except String Nat := match v with
      | .int b => if 0 ≤ b.v ∧ b.v < (2 ^ 32 : Nat) then .ok b.v.toNat else .error outOfRange
      | .str s en => let b := strToBigint s en; if 0 ≤ b.v ∧ b.v < (2 ^ 32 : Nat) then .ok b.v.toNat else .error outOfRange
      | .unknown => .ok 0
      | .failed _ => .ok 0
      | _ => .error "expected integer"
    match n with
    | .error m => .error m
    | .ok n =>
      let unit := (defs.banks.getD ctx.bank defaultBank).addrUnit
      let prev := defs.res.getD ref 0
      let nv := n * unit
      let defs' := { defs with res := defs.res.set ref nv }
      if nv ≥ USIZE_MAX1 then .error outOfRange
      else if nv != prev then .ok (defs', false, if ctx.last then ["reserve size did not converge"] else [])
      else .ok (defs', true, [])

/-- `resolve_align` -/
def resolveAlign (st : Static) (defs : Defs) (ctx : RCtx) (ref : Nat) (e : Expr) : ItemRes :=
  match resolverEval st defs ctx {} e with
  | .error m => .error m
  | .ok (v, _) =>
    let n : Except String Nat := match v with
      | .int b => match toUsize b.v with | some n => .ok n | none => .error outOfRange
      | .unknown => .ok 0
      | .failed _ => .ok 0
      | _ => .error "expected non-negative integer"
    match n with
    | .error m => .error m
    | .ok n =>
      let prev := defs.aligns.getD ref 0
      let defs' := { defs with aligns := defs.aligns.set ref n }
      if n != prev then .ok (defs', false, if ctx.last then ["alignment size did not converge"] else [])
      else if ctx.last && n == 0 then .error "invalid alignment size"
      else .ok (defs', true, [])

/-- `resolve_addr` -/
def resolveAddr (st : Static) (defs : Defs) (ctx : RCtx) (ref : Nat) (e : Expr) : ItemRes :=
  match resolverEval st defs ctx {} e with
  | .error m => .error m
  | .ok (v, _) =>
    let a : Except String Int := match v with
      | .int b => .ok b.v
      | .str s en => .ok (strToBigint s en).v
      | .unknown => .ok 0
      | .failed _ => .ok 0
      | _ => .error "expected integer"
    match a with
    | .error m => .error m
    | .ok a =>
      let prev := defs.addrs.getD ref 0
      let defs' := { defs with addrs := defs.addrs.set ref a }
      if a != prev then .ok (defs', false, if ctx.last then ["address did not converge"] else [])
      else if ctx.last then
        let b := defs.banks.getD ctx.bank defaultBank
        if a < b.addrStart then .error "address is out of bank range"
        else
          let delta := (a - b.addrStart) * b.addrUnit
          if delta ≥ (2 ^ 64 : Nat) then .error outOfRange
          else match b.size with
            | some sz => if delta.toNat ≥ sz then .error "address is out of bank range" else .ok (defs', true, [])
            | none => .ok (defs', true, [])
      else .ok (defs', true, [])

/-- `resolve_assert` -/
def resolveAssert (st : Static) (defs : Defs) (ctx : RCtx) (e : Expr) : ItemRes :=
  if !ctx.last then .ok (defs, false, [])
  else match resolverEval st defs ctx {} e with
    | .error m => .error m
    | .ok (v, _) =>
      match v with
      | .bool true => .ok (defs, true, [])
      | .bool false => .ok (defs, true, ["assertion failed"])
      | _ => .error "expected boolean"

/-! ## one pass -/

def layErrMsg : LayErr → String
  | .bankOverlap => "output of bank overlaps with bank"
  | .defaultBank => "usage of the default bank while custom banks are defined"
  | .outOfRange => "output out of range for bank"
  | .nonWritable => "output to non-writable bank"
  | .overlap => "output overlap"
  | .misaligned => "position is not aligned to an address"
  | .valueRange => "value is out of supported range"
  | .badBank => "model: bad bank"

/-- the resolved item an AST node (element `k` of a data directive) currently stands for -/
def nodeItem (st : Static) (defs : Defs) (n : AstNode) (k : Nat) : RItem :=
  match n with
  | .bank _ (some r) => .bank r
  | .bankdef _ (some r) => .bank r
  | .symbol _ _ kind _ (some r) =>
    let depth := (st.decls.symbols.decls.getD r default).depth
    match kind with
    | .label => .label depth (match (defs.sym r).value with | .int b => b.v | _ => 0)
    | .constant _ => .const depth
  | .instr _ (some r) => .emit (List.replicate ((defs.instrs.getD r default).encoding.size.getD 0) false)
  | .data _ _ refs => .emit (List.replicate ((defs.datas.getD (refs.getD k 0) default).encoding.size.getD 0) false)
  | .res _ (some r) => .res (defs.res.getD r 0)
  | .align _ (some r) => .align (defs.aligns.getD r 0)
  | .addr _ (some r) => .addr (defs.addrs.getD r 0)
  | _ => .other

structure PassSt where
  defs : Defs
  it : IterSt
  symCtx : List String
  stable : Bool
  reported : List String

/-- visiting one node (element `k` of a data directive) in `resolve_once` -/
def passNode (st : Static) (first last : Bool) (ps : PassSt) (n : AstNode) (k : Nat) : Except String PassSt :=
  -- `ResolveIterator::next`: bank switch / symbol context / labelalign
  let symCtx := match n with
    | .symbol _ _ _ _ (some r) => (st.decls.symbols.decls.getD r default).ctx
    | _ => ps.symCtx
  match visit ps.defs.banks ps.it (nodeItem st ps.defs n k) with
  | .error e => .error (layErrMsg e)
  | .ok it =>
    let ctx : RCtx := ⟨first, last, symCtx, it.bank, it.pos⟩
    let r : ItemRes :=
      match n with
      | .symbol _ _ kind _ (some ref) =>
        match kind with
        | .label => resolveLabel st ps.defs ctx ref
        | .constant e => resolveConstant st ps.defs ctx ref e
      | .instr _ (some ref) => resolveInstruction st ps.defs ctx ref
      | .data sz es refs => resolveData st ps.defs ctx (refs.getD k 0) sz (es.getD k default)
      | .res e (some ref) => resolveRes st ps.defs ctx ref e
      | .align e (some ref) => resolveAlign st ps.defs ctx ref e
      | .addr e (some ref) => resolveAddr st ps.defs ctx ref e
      | .assert e => resolveAssert st ps.defs ctx e
      | _ => .ok (ps.defs, true, [])
    match r with
    | .error m => .error m
    | .ok (defs, stable, reported) =>
      -- `advance_address` (performed at the start of the following `next`) with the updated item
      match advance defs.banks it (nodeItem st defs n k) with
      | .error e => .error (layErrMsg e)
      | .ok it' => .ok ⟨defs, it', symCtx, ps.stable && stable, ps.reported ++ reported⟩

def passNodes (st : Static) (first last : Bool) : List AstNode → PassSt → Except (String × List String) PassSt
  | [], ps => .ok ps
  | n :: rest, ps =>
    let elems := match n with
      | .data _ es _ => es.length
      | _ => 1
    let rec go (k : Nat) (fuel : Nat) (ps : PassSt) : Except (String × List String) PassSt :=
      match fuel with
      | 0 => .ok ps
      | fuel + 1 =>
        match passNode st first last ps n k with
        | .error m => .error (m, ps.reported)
        | .ok ps' => go (k + 1) fuel ps'
    match go 0 elems ps with
    | .error e => .error e
    | .ok ps' => passNodes st first last rest ps'

/-- `resolve_once`: `(defs', stable, reported)`; a fatal error carries the messages reported before it -/
def resolveOnce (st : Static) (nodes : List AstNode) (first last : Bool) (defs : Defs) :
    Except (String × List String) (Defs × Bool × List String) :=
  match passNodes st first last nodes ⟨defs, initIter defs.banks, [], true, []⟩ with
  | .error e => .error e
  | .ok ps => .ok (ps.defs, ps.stable, ps.reported)

/-! ## the iteration loop (`resolve_iteratively`) -/

/-- result of the loop: all messages reported (in order), and the iteration count on success -/
def iterLoop (st : Static) (nodes : List AstNode) (max : Nat) : Nat → Nat → Defs → List String →
    Except (List String) (Nat × Defs × List String × Bool)
  -- returns (iterations done, defs, reported so far, finished := true when the loop returned Ok directly)
  | 0, i, defs, rep => .ok (i, defs, rep, false)
  | fuel + 1, i, defs, rep =>
    if i ≥ max then .ok (i, defs, rep, false)
    else
      let it := i + 1
      let first := it == 1
      let last := it == max
      match resolveOnce st nodes first last defs with
      | .error (m, r) => .error (rep ++ r ++ [m])
      | .ok (defs', stable, r) =>
        if stable then
          if last then .ok (it, defs', rep ++ r, true) else .ok (it, defs', rep ++ r, false)
        else if last then .error (rep ++ r ++ ["did not converge"])
        else iterLoop st nodes max fuel it defs' (rep ++ r)

/-- `resolve_iteratively`: `ok (iterations, defs, reported)` or all error messages -/
def resolveIterativelyN (st : Static) (nodes : List AstNode) (max : Nat) (defs : Defs) : Except (List String) (Nat × Defs × List String) :=
  match iterLoop st nodes max max 0 defs [] with
  | .error e => .error e
  | .ok (i, defs, rep, true) => .ok (i, defs, rep)
  | .ok (i, defs, rep, false) =>
    match resolveOnce st nodes false true defs with
    | .error (m, r) => .error (rep ++ r ++ [m])
    | .ok (defs', stable, r) =>
      if stable then .ok (i, defs', rep ++ r) else .error (rep ++ r ++ ["did not converge"])

/-- the budget of the outer loop is `--iters` (the same option also bounds the loops of `asm` blocks, see `evalAsm`) -/
def resolveIteratively (st : Static) (nodes : List AstNode) (defs : Defs) : Except (List String) (Nat × Defs × List String) :=
  resolveIterativelyN st nodes st.opts.maxIter defs

end Casm

namespace Casm

/-! ## parsing with inclusion (`parse_many_and_resolve_includes`) -/

abbrev SrcFiles := List (List Char × List Nat)

def SrcFiles.text (fs : SrcFiles) (name : List Char) : Option (List Char) :=
  (fs.find? (·.1 == name)).map fun f => bytesToChars f.2

mutual
def includeFile (fs : SrcFiles) : Nat → List Char → List (List Char) → List (List Char) →
    Except String (List AstNode × List (List Char))
  | 0, _, _, _ => .error "model: out of fuel"
  | fuel + 1, name, seen, once =>
    if once.contains name then .ok ([], once)
    else match fs.text name with
      | none => .error "file not found"
      | some text =>
        match parseFile text with
        | .error e => .error e
        | .ok nodes =>
          let once := if nodes.any (fun n => match n with | .once => true | _ => false) then name :: once else once
          includeNodes fs fuel name nodes seen once []

def includeNodes (fs : SrcFiles) : Nat → List Char → List AstNode → List (List Char) → List (List Char) → List AstNode →
    Except String (List AstNode × List (List Char))
  | 0, _, _, _, _, _ => .error "model: out of fuel"
  | _ + 1, _, [], _, once, acc => .ok (acc.reverse, once)
  | fuel + 1, name, n :: rest, seen, once, acc =>
    match n with
    | .include rel =>
      match filenameNavigate name rel with
      | .error .invalidFilename => .error "invalid filename"
      | .error .outOfProject => .error "cannot navigate out of project directory"
      | .ok inc =>
        if seen.contains inc then .error "recursive file inclusion"
        else match includeFile fs fuel inc (inc :: seen) once with
          | .error e => .error e
          | .ok (inner, once') => includeNodes fs fuel name rest seen once' (inner.reverse ++ acc)
    | _ => includeNodes fs fuel name rest seen once (n :: acc)
end

def includeFuel (fs : SrcFiles) : Nat := (fs.foldl (fun n f => n + f.2.length + 4) 8) * (fs.length + 3)

def parseManyAux (fs : SrcFiles) (fuel : Nat) : List (List Char) → List (List Char) → List AstNode →
    Except String (List AstNode)
  | [], _, acc => .ok acc
  | r :: rest, once, acc =>
    match includeFile fs fuel r [] once with
    | .error e => .error e
    | .ok (nodes, once') => parseManyAux fs fuel rest once' (acc ++ nodes)

def parseMany (fs : SrcFiles) (roots : List (List Char)) : Except String (List AstNode) :=
  parseManyAux fs (includeFuel fs) roots [] []

/-! ## declarations (`decls::collect`) -/

def mapNodesE {ε σ} (f : σ → AstNode → Except ε (σ × AstNode)) : σ → List AstNode → List AstNode → Except ε (σ × List AstNode)
  | s, [], acc => .ok (s, acc.reverse)
  | s, n :: rest, acc =>
    match f s n with
    | .error e => .error e
    | .ok (s', n') => mapNodesE f s' rest (n' :: acc)

def collectBankdefs (d : Decls) (nodes : List AstNode) : Except String (Decls × List AstNode) :=
  mapNodesE (fun d n => match n with
    | .bankdef b none =>
      match d.banks.declare [] b.name 0 .other with
      | .error e => .error e
      | .ok (r, m) => .ok ({ d with banks := m }, .bankdef b (some r))
    | n => .ok (d, n)) d nodes []

def collectBanks (d : Decls) (nodes : List AstNode) : Except String (Decls × List AstNode) :=
  mapNodesE (fun d n => match n with
    | .bank name none =>
      match d.banks.getByName [] 0 [name] with
      | .error e => .error e
      | .ok r => .ok (d, .bank name (some r))
    | n => .ok (d, n)) d nodes []

def collectRuledefs (d : Decls) (nodes : List AstNode) : Except String (Decls × List AstNode) :=
  mapNodesE (fun d n => match n with
    | .ruledef name sub rules none =>
      let nm := name.getD s!"#anonymous_ruledef_{d.ruledefs.decls.length}"
      match d.ruledefs.declare [] nm 0 .other with
      | .error e => .error e
      | .ok (r, m) => .ok ({ d with ruledefs := m }, .ruledef name sub rules (some r))
    | n => .ok (d, n)) d nodes []

def collectSymbols (d : Decls) (nodes : List AstNode) : Except String (Decls × List AstNode) :=
  match mapNodesE (fun (st : Decls × List String) n => match n with
    | .symbol level name kind ne ref =>
      match ref with
      | some r => .ok ((st.1, (st.1.symbols.decls.getD r default).ctx), n)
      | none =>
        let k := match kind with | .label => DeclKind.label | .constant _ => DeclKind.constant
        match st.1.symbols.declare st.2 name level k with
        | .error e => .error e
        | .ok (r, m) =>
          let d' := { st.1 with symbols := m }
          .ok ((d', (m.decls.getD r default).ctx), .symbol level name kind ne (some r))
    | n => .ok (st, n)) (d, []) nodes [] with
  | .error e => .error e
  | .ok ((d, _), ns) => .ok (d, ns)

def collectFunctions (d : Decls) (nodes : List AstNode) : Except String (Decls × List AstNode) :=
  mapNodesE (fun d n => match n with
    | .fn name ps body none =>
      match d.symbols.declare [] name 0 .function with
      | .error e => .error e
      | .ok (r, m) => .ok ({ d with symbols := m }, .fn name ps body (some r))
    | n => .ok (d, n)) d nodes []

def collectAll (d : Decls) (nodes : List AstNode) : Except String (Decls × List AstNode) := do
  let (d, nodes) ← collectBankdefs d nodes
  let (d, nodes) ← collectBanks d nodes
  let (d, nodes) ← collectRuledefs d nodes
  let (d, nodes) ← collectSymbols d nodes
  collectFunctions d nodes

/-! ## `define_symbols`, `resolve_constants_simple`, `resolve_ifs` -/

def asmBuiltinKnown (n : String) : Bool := isAsmBuiltinName n

def padTo {α} (l : List α) (n : Nat) (x : α) : List α := l ++ List.replicate (n + 1 - l.length) x

/-- `symbol::define` -/
def defineSymbols (defs : Defs) (nodes : List AstNode) : Defs :=
  nodes.foldl (fun defs n => match n with
    | .symbol _ _ kind ne (some r) =>
      if ((defs.symbols.getD r none).isSome) then defs
      else
        let known := match kind with
          | .constant e => staticallyKnown { queryFunction := asmBuiltinKnown } e
          | .label => false
        { defs with symbols := (padTo defs.symbols r none).set r (some { noEmit := ne, known := known }) }
    | _ => defs) defs

/-- `eval_simple` -/
def evalSimple (d : Decls) (defs : Defs) (e : Expr) : Except String Value :=
  let env : EvalEnv :=
    { var := fun level path =>
        if level == 0 && (path == ["$"] || path == ["pc"]) then .ok .unknown
        else if level == 0 && (match path with | [n] => isAsmBuiltinName n | _ => false) then
          -- built-in functions take precedence over symbols, as in `evalVariable`
          .ok (.asmBuiltin (path.head?.getD ""))
        else match d.symbols.tryGetByName [] level path with
          | some r => match defs.symbols.getD r none with
            | some s => .ok s.value
            | none => .ok .unknown
          | none => .ok .unknown
      fn := fun _ _ _ => .ok .unknown
      asm := fun _ _ => .ok .unknown }
  match eval env {} e with
  | .error m => .error m
  | .ok (.failed msg, _) => .error msg
  | .ok (v, _) => .ok v

/-- `resolve_constants_simple`: the new definitions and the number of constants resolved -/
def resolveConstantsSimple (opts : Opts) (d : Decls) (defs : Defs) (nodes : List AstNode) : Except String (Defs × Nat) :=
  nodes.foldl (fun acc n =>
    match acc with
    | .error e => .error e
    | .ok (defs, count) =>
      match n with
      | .symbol _ _ (.constant e) _ (some r) =>
        let s := defs.sym r
        if s.resolved then .ok (defs, count + 1)
        else
          let fullName := (d.symbols.decls.getD r default).name
          match opts.defines.find? (·.1 == fullName) with
          | some dv => .ok (defs.setSym r { s with value := dv.2, resolved := true }, count + 1)
          | none =>
            match evalSimple d defs e with
            | .error m => .error m
            | .ok v =>
              let s' := { s with value := v }
              match v with
              | .unknown => .ok (defs.setSym r s', count)
              | _ =>
                if opts.optStatic && s.known then .ok (defs.setSym r { s' with resolved := true }, count + 1)
                else .ok (defs.setSym r s', count + 1)
      | _ => .ok (defs, count)) (.ok (defs, 0))

/-- a node as the parser delivers it: item references are assigned only by the declaration and
    definition passes, never by the parser (this function is the identity on parser output; it makes
    that fact visible where nodes enter the passes: after parsing and when an `#if` arm is spliced) -/
def AstNode.fresh : AstNode → AstNode
  | .addr e _ => .addr e none
  | .align e _ => .align e none
  | .bank name _ => .bank name none
  | .bankdef b _ => .bankdef b none
  | .data sz es _ => .data sz es []
  | .fn name ps body _ => .fn name ps body none
  | .res e _ => .res e none
  | .ruledef name sub rules _ => .ruledef name sub rules none
  | .instr src _ => .instr src none
  | .symbol level name kind ne _ => .symbol level name kind ne none
  | n => n

/-- `resolve_ifs`: from the last node to the first; returns the new node list and the count -/
def resolveIfs (d : Decls) (defs : Defs) (nodes : List AstNode) : Except String (List AstNode × Nat) :=
  -- process in reverse, building the result from the back
  nodes.reverse.foldl (fun acc n =>
    match acc with
    | .error e => .error e
    | .ok (out, count) =>
      match n with
      | .ifDir cond t f =>
        match evalSimple d defs cond with
        | .error m => .error m
        | .ok (.bool true) => .ok (t.map AstNode.fresh ++ out, count + 1)
        | .ok (.bool false) => .ok ((f.getD []).map AstNode.fresh ++ out, count + 1)
        | .ok _ => .ok (n :: out, count)
      | _ => .ok (n :: out, count)) (.ok ([], 0))

/-- `eval_certain` -/
def evalCertain (d : Decls) (defs : Defs) (e : Expr) : Except String Value :=
  let env : EvalEnv :=
    { var := fun level path =>
        if level == 0 && (path == ["$"] || path == ["pc"]) then .error "cannot get address in this context"
        else match d.symbols.getByName [] level path with
          | .error m => .error m
          | .ok r =>
            match (defs.symbols.getD r none).map (·.value) with
            | none => .error s!"unresolved symbol `{displayName level path}`"
            | some .unknown => .error s!"unresolved symbol `{displayName level path}`"
            | some v => .ok v
      fn := fun _ _ _ => .ok .unknown
      asm := fun _ _ => .ok .unknown }
  match eval env {} e with
  | .error m => .error m
  | .ok (.unknown, _) => .error "cannot resolve expression"
  | .ok (.failed msg, _) => .error msg
  | .ok (v, _) => .ok v

/-- `check_leftover_ifs` -/
def checkLeftoverIfs (d : Decls) (defs : Defs) (nodes : List AstNode) : Except String Unit :=
  match nodes.find? (fun n => match n with | .ifDir _ _ _ => true | _ => false) with
  | some (.ifDir cond _ _) =>
    match evalCertain d defs cond with
    | .error m => .error m
    | .ok _ => .error "unresolved condition"
  | _ => .ok ()

/-- the first loop of `assemble` -/
def declLoop (opts : Opts) : Nat → Decls → Defs → List AstNode → Nat → Except String (Decls × Defs × List AstNode)
  | 0, _, _, _, _ => .error "model: out of fuel"
  | fuel + 1, d, defs, nodes, prevCount =>
    match collectAll d nodes with
    | .error e => .error e
    | .ok (d, nodes) =>
      let defs := defineSymbols defs nodes
      match resolveConstantsSimple opts d defs nodes with
      | .error e => .error e
      | .ok (defs, count) =>
        match resolveIfs d defs nodes with
        | .error e => .error e
        | .ok (nodes', ifs) =>
          if count == prevCount && ifs == 0 then .ok (d, defs, nodes')
          else declLoop opts fuel d defs nodes' count

/-! ## `define_remaining` -/

/-- `eval_certain(...).expect_usize` etc. for bank definitions -/
def defineBank (d : Decls) (defs : Defs) (b : BankdefAst) : Except String Bank :=
  let ev (e : Option Expr) : Except String (Option Value) :=
    match e with
    | none => .ok none
    | some e => (evalCertain d defs e).map some
  let usize (v : Value) : Except String Nat := expectUsize v
  let nonzero (v : Value) : Except String Nat :=
    match v with
    | .int b => match toUsize b.v with
      | some 0 => .error outOfRange
      | some n => .ok n
      | none => .error outOfRange
    | .unknown => .error "value is unknown"
    | _ => .error "expected positive integer"
  let bigint (v : Value) : Except String Int :=
    match v with
    | .int b => .ok b.v
    | .unknown => .error "value is unknown"
    | _ => .error "expected integer"
  do
    let unitV ← ev b.addrUnit
    let unit ← match unitV with | some v => nonzero v | none => .ok 8
    let laV ← ev b.labelAlign
    let la ← match laV with | some v => (usize v).map some | none => .ok none
    let startV ← ev b.addrStart
    let start ← match startV with | some v => bigint v | none => .ok 0
    let sizeV ← ev b.addrSize
    let size ← match sizeV with | some v => (usize v).map some | none => .ok none
    let endV ← ev b.addrEnd
    let endA ← match endV with | some v => (bigint v).map some | none => .ok none
    let addrSize ← match size, endA with
      | none, none => .ok none
      | some s, none => .ok (some s)
      | none, some e =>
        match toUsize (e - start) with
        | some n => .ok (some n)
        | none => .error outOfRange
      | some _, some _ => .error "both `addr_end` and `size` defined"
    let outpV ← ev b.outp
    let outp ← match outpV with | some v => (usize v).map some | none => .ok none
    -- the size in bits has to fit a `usize`
    let sizeBits ← match addrSize with
      | none => .ok none
      | some s => if s * unit < USIZE_MAX1 then .ok (some (s * unit)) else .error outOfRange
    -- the bank's window in the output has to be addressable (finding F81, repaired: `outp + position` wrapped)
    let _ ← (match sizeBits, outp with
      | some sz, some o => if o + sz < USIZE_MAX1 then .ok () else .error outOfRange
      | _, _ => .ok () : Except String Unit)
    pure ⟨start, unit, la, sizeBits, outp, b.fill⟩

def defineRule (d : Decls) (r : RuleAst) : Except String Rule :=
  let res : Except String (List RPart × Nat × List (String × RParamTy)) := r.pattern.foldl (fun acc p =>
    match acc with
    | .error e => .error e
    | .ok (parts, exact, params) =>
      match p with
      | .whitespace => .ok (parts ++ [RPart.whitespace], exact, params)
      | .exact c => .ok (parts ++ [.exact c], exact + 1, params)
      | .param name ty =>
        let t : Except String RParamTy := match ty with
          | .unspecified => .ok .unspecified
          | .integer n => .ok (.integer n)
          | .unsigned n => .ok (.unsigned n)
          | .signed n => .ok (.signed n)
          | .ruledef rn => (d.ruledefs.getByName [] 0 [rn]).map .ruledefRef
        match t with
        | .error e => .error e
        | .ok t =>
          if params.any (fun (q : String × RParamTy) => q.1 == name) then .error s!"duplicate parameter `{name}`"
          else .ok (parts ++ [.param params.length], exact, params ++ [(name, t)]))
    (.ok (([] : List RPart), 0, ([] : List (String × RParamTy))))
  match res with
  | .error e => .error e
  | .ok (parts, exact, params) => .ok ⟨parts, exact, params, r.expr⟩

def mapE {α β ε} (f : α → Except ε β) : List α → Except ε (List β)
  | [] => .ok []
  | a :: as => match f a with
    | .error e => .error e
    | .ok b => (mapE f as).map (b :: ·)

/-- instructions, data elements, res / align / addr get their item references here; every other
    node (symbols in particular) passes through unchanged -/
def assignRef (acc : Defs × List AstNode) (n : AstNode) : Defs × List AstNode :=
    let (df, out) := acc
    match n with
    | .instr src _ => ({ df with instrs := df.instrs ++ [{}] }, out ++ [.instr src (some df.instrs.length)])
    | .data sz es _ =>
      let news : List DataDef := es.map fun e =>
        let size := match sz with
          | some s => some s
          | none => staticSize {} e
        { known := staticallyKnown { queryFunction := asmBuiltinKnown } e, encoding := ⟨0, some (size.getD 0)⟩ }
      ({ df with datas := df.datas ++ news }, out ++ [.data sz es ((List.range es.length).map (· + df.datas.length))])
    | .res e _ => ({ df with res := df.res ++ [0] }, out ++ [.res e (some df.res.length)])
    | .align e _ => ({ df with aligns := df.aligns ++ [0] }, out ++ [.align e (some df.aligns.length)])
    | .addr e _ => ({ df with addrs := df.addrs ++ [0] }, out ++ [.addr e (some df.addrs.length)])
    | n => (df, out ++ [n])

/-- `define_remaining`: banks, ruledefs, functions, instructions, data, res/align/addr -/
def defineRemaining (d : Decls) (defs : Defs) (nodes : List AstNode) : Except String (Defs × List AstNode) := do
  -- bankdefs
  let banks ← nodes.foldl (fun acc n =>
      match acc with
      | .error e => .error e
      | .ok banks => match n with
        | .bankdef b (some r) => match defineBank d defs b with
          | .error e => .error e
          | .ok bk => .ok ((padTo banks r defaultBank).set r bk)
        | _ => .ok banks) (.ok [defaultBank])
  -- ruledefs
  let ruledefs ← nodes.foldl (fun acc n =>
      match acc with
      | .error e => .error e
      | .ok rds => match n with
        | .ruledef _ sub rules (some r) => match mapE (defineRule d) rules with
          | .error e => .error e
          | .ok rs => .ok ((padTo rds r (default : Ruledef)).set r ⟨sub, rs⟩)
        | _ => .ok rds) (.ok [])
  -- functions (also define their symbols)
  let (fns, symbols) := nodes.foldl (fun (acc : List FnDef × List (Option SymDef)) n =>
      match n with
      | .fn _ ps body (some r) =>
        let idx := acc.1.length
        (acc.1 ++ [⟨r, ps, body⟩],
         (padTo acc.2 r none).set r (some { noEmit := true, known := true, value := .fn idx, resolved := true }))
      | _ => acc) ([], defs.symbols)
  let (defs', nodes') := nodes.foldl assignRef ({ defs with banks := banks, ruledefs := ruledefs, fns := fns, symbols := symbols }, [])
  pure (defs', nodes')

/-! ## `match_all` -/

/-- `query_variable` of `get_match_statically_known` -/
def matchQv (d : Decls) (defs : Defs) (symCtx : List String) : Nat → List String → Bool := fun level path =>
  -- a builtin takes precedence over a declared symbol of the same name
  if level == 0 && (path.head? == some "$" || path.head? == some "pc" || (path.head?.map isAsmBuiltinName).getD false) then false
  else match d.symbols.tryGetByName symCtx level path with
    | none => false
    | some r => (defs.sym r).known

/-- the provider without locals: arguments are judged outside the rule's scope (`args_provider`) -/
def matchP0 (d : Decls) (defs : Defs) (symCtx : List String) : SKProvider :=
  { queryVariable := matchQv d defs symCtx, queryFunction := asmBuiltinKnown }

mutual
/-- `get_match_statically_known` -/
def matchKnown (d : Decls) (defs : Defs) (symCtx : List String) : Nat → IMatch → Bool
  | 0, _ => false
  | fuel + 1, m =>
    let rule := (defs.ruledefs.getD m.ruledef default).rules.getD m.rule default
    -- the production is judged with every parameter as a local
    match matchKnownArgs d defs symCtx fuel rule m.args 0 (matchP0 d defs symCtx) (matchP0 d defs symCtx) with
    | none => false
    | some p => staticallyKnown p rule.expr

/-- `none` = some argument is not statically known (the match is then not statically known) -/
def matchKnownArgs (d : Decls) (defs : Defs) (symCtx : List String) : Nat → Rule → List IArg → Nat → SKProvider → SKProvider →
    Option SKProvider
  | 0, _, _, _, _, _ => none
  | _ + 1, _, [], _, _, p => some p
  | fuel + 1, rule, a :: rest, i, pa, p =>
    let param := rule.params.getD i ("", .unspecified)
    let known := match param.2, a with
      | .ruledefRef _, .nested nm _ _ _ => matchKnown d defs symCtx fuel nm
      | .ruledefRef _, _ => false
      | _, .expr e _ _ _ => staticallyKnown pa e
      | _, _ => false
    if !known then none
    else matchKnownArgs d defs symCtx fuel rule rest (i + 1) pa (p.setLocal param.1 { valueKnown := true })
end

mutual
/-- `get_match_static_size` -/
def matchStaticSize (defs : Defs) : Nat → IMatch → Option Nat
  | 0, _ => none
  | fuel + 1, m =>
    let rule := (defs.ruledefs.getD m.ruledef default).rules.getD m.rule default
    staticSize (matchSizeArgs defs fuel rule m.args 0 {}) rule.expr

def matchSizeArgs (defs : Defs) : Nat → Rule → List IArg → Nat → SKProvider → SKProvider
  | 0, _, _, _, p => p
  | _ + 1, _, [], _, p => p
  | fuel + 1, rule, a :: rest, i, p =>
    let param := rule.params.getD i ("", .unspecified)
    let p' := match param.2 with
      | .unspecified => p
      | .integer n => p.setLocal param.1 { size := some n }
      | .unsigned n => p.setLocal param.1 { size := some n }
      | .signed n => p.setLocal param.1 { size := some n }
      | .ruledefRef _ =>
        match a with
        | .nested nm _ _ _ =>
          match matchStaticSize defs fuel nm with
          | some s => p.setLocal param.1 { size := some s }
          | none => p
        | _ => p
    matchSizeArgs defs fuel rule rest (i + 1) p'
end

/-- `match_all`: `(defs, reported)` -/
def matchAll (opts : Opts) (d : Decls) (defs : Defs) (nodes : List AstNode) : Defs × List String :=
  let (defs, _, rep) := nodes.foldl (fun (acc : Defs × List String × List String) n =>
    let (defs, symCtx, rep) := acc
    match n with
    | .instr src (some r) =>
      let ms := matchInstr opts.optMatcher defs.ruledefs src
      if ms.isEmpty then (defs, symCtx, rep ++ ["no match found for instruction"])
      else
        let infos : List MatchInfo := ms.map fun m =>
          ⟨m, matchKnown d defs symCtx 64 m, (matchStaticSize defs 64 m).getD 0⟩
        let largest := infos.foldl (fun mx i => if i.size > mx then i.size else mx) 0
        let ins : InstrDef := { cands := infos, known := infos.all (·.known), encoding := ⟨0, some largest⟩ }
        ({ defs with instrs := defs.instrs.set r ins }, symCtx, rep)
    | .symbol _ _ _ _ (some r) => (defs, (d.symbols.decls.getD r default).ctx, rep)
    | _ => acc) (defs, [], [])
  (defs, rep)

/-! ## output -/

/-- the resolved items handed to `build_output` -/
def outputItems (st : Static) (defs : Defs) (nodes : List AstNode) : List RItem :=
  nodes.flatMap fun n =>
    match n with
    | .instr _ (some r) => let e := (defs.instrs.getD r default).encoding; [.emit (emitBits e.v (e.size.getD 0))]
    | .data _ _ refs => refs.map fun r => let e := (defs.datas.getD r default).encoding; .emit (emitBits e.v (e.size.getD 0))
    | n => [nodeItem st defs n 0]

structure AsmOk where
  bits : List Bool
  spans : List OSpan
  symbols : List (String × BI)
  iters : Nat

/-- `format_default`-order symbol listing (declared, emitted, integer-valued) -/
def symbolListing (d : Decls) (defs : Defs) : List (String × BI) :=
  let rec go (fuel : Nat) (children : List (String × Nat)) : List (String × BI) :=
    match fuel with
    | 0 => []
    | fuel + 1 =>
      children.flatMap fun (_, r) =>
        let decl := d.symbols.decls.getD r default
        let s := defs.sym r
        let me : List (String × BI) :=
          if !s.noEmit then match s.value with
            | .int b => [(decl.name, b)]
            | _ => []
          else []
        me ++ go fuel decl.children
  go (d.symbols.decls.length + 1) d.symbols.globals

/-- `check_unused_defines` -/
def checkUnusedDefines (opts : Opts) (d : Decls) : List String :=
  opts.defines.filterMap fun dv =>
    let path := (splitOnChar '.' dv.1.toList).map String.ofList
    match d.symbols.tryGetByName [] 0 path with
    | none => some s!"unused define `{dv.1}`"
    | some r =>
      -- a define is used by the constant of that name only: a label or a function of that name does not use it
      match (d.symbols.decls.getD r default).kind with
      | .constant => none
      | _ => some s!"unused define `{dv.1}`"

/-- everything before `match_all`: parsing with inclusion, declarations, `#if`, definitions -/
def frontEndPre (opts : Opts) (fs : SrcFiles) (roots : List (List Char)) : Except (List String) (Decls × Defs × List AstNode) :=
  match (parseMany fs roots).map (·.map AstNode.fresh) with
  | .error e => .error [e]
  | .ok nodes =>
    match (SymMgr.new "bank").declare [] "#global_bankdef" 0 .other with
    | .error e => .error [e]
    | .ok (_, bankMgr) =>
      let d0 : Decls := { banks := bankMgr }
      let nconst := nodes.length + 4
      match declLoop opts (4 * nconst + 64 + 8 * (fs.foldl (fun n f => n + f.2.length) 0)) d0 {} nodes 0 with
      | .error e => .error [e]
      | .ok (d, defs, nodes) =>
        match checkLeftoverIfs d defs nodes with
        | .error e => .error [e]
        | .ok _ =>
          match defineRemaining d defs nodes with
          | .error e => .error [e]
          | .ok (defs, nodes) => .ok (d, defs, nodes)

/-- everything up to and including `match_all` -/
def frontEnd (opts : Opts) (fs : SrcFiles) (roots : List (List Char)) : Except (List String) (Static × List AstNode × Defs) :=
  match frontEndPre opts fs roots with
  | .error e => .error e
  | .ok (d, defs, nodes) =>
    let (defs, rep) := matchAll opts d defs nodes
    if !rep.isEmpty then .error rep
    else .ok (⟨opts, d, roots.headD [], fs⟩, nodes, defs)

/-- For the attribution of differences between the two matcher settings: `(instructions whose match
    lists differ, those among them with an ignorable token inside the leading literal)`. -/
def matcherDiff (opts : Opts) (fs : SrcFiles) (roots : List (List Char)) : Except (List String) (Nat × Nat) :=
  match frontEndPre opts fs roots with
  | .error e => .error e
  | .ok (_, defs, nodes) =>
    .ok (nodes.foldl (fun (acc : Nat × Nat) n =>
      match n with
      | .instr src _ =>
        let a := matchInstr true defs.ruledefs src
        let b := matchInstr false defs.ruledefs src
        let same := a.length == b.length && a.all (fun m => b.any (fun m' => m.isSame m')) && b.all (fun m => a.any (fun m' => m.isSame m'))
        if same then acc else (acc.1 + 1, acc.2 + (if noBlankInLeadingLiteral src then 0 else 1))
      | _ => acc) (0, 0))

/-- **`asm::assemble`**: success with output, or the list of error messages (first = first reported) -/
def assemble (opts : Opts) (fs : SrcFiles) (roots : List (List Char)) : Except (List String) AsmOk :=
  match frontEnd opts fs roots with
  | .error e => .error e
  | .ok (st, nodes, defs) =>
    match resolveIteratively st nodes defs with
    | .error msgs => .error msgs
    | .ok (iters, defs, rep) =>
      if !rep.isEmpty then .error rep
      else if !checkBankOverlap defs.banks then .error [layErrMsg .bankOverlap]
      else
        let unused := checkUnusedDefines opts st.decls
        if !unused.isEmpty then .error unused
        else
          match buildLoop defs.banks ⟨initIter defs.banks, fillBanks defs.banks [], [], []⟩ (outputItems st defs nodes) with
          | .error e => .error [layErrMsg e]
          | .ok bst => .ok ⟨bst.out, bst.spans, symbolListing st.decls defs, iters⟩

/-- the part of the resolver state that passes read and write -/
structure StateDump where
  symbols : List (Option Value)
  instrs : List BI
  datas : List BI
  res : List Nat
  aligns : List Nat
  addrs : List Int

def Defs.dump (d : Defs) : StateDump :=
  ⟨d.symbols.map (·.map (·.value)), d.instrs.map (·.encoding), d.datas.map (·.encoding), d.res, d.aligns, d.addrs⟩

/-- overwrite the values of a state (after `match_all`) with a dumped state; all short-cut marks cleared
    except for function symbols -/
def Defs.withDump (d : Defs) (s : StateDump) : Defs :=
  { d with
    symbols := (List.range d.symbols.length).map fun i =>
      match d.symbols.getD i none, s.symbols.getD i none with
      | some sd, some v => some { sd with value := v, resolved := match v with | .fn _ => true | _ => false }
      | o, _ => o
    instrs := (List.range d.instrs.length).map fun i => { (d.instrs.getD i default) with encoding := s.instrs.getD i default, resolved := false }
    datas := (List.range d.datas.length).map fun i => { (d.datas.getD i default) with encoding := s.datas.getD i default, resolved := false }
    res := s.res, aligns := s.aligns, addrs := s.addrs }

def StateDump.same (a b : StateDump) : Bool :=
  a.symbols == b.symbols && a.instrs == b.instrs && a.datas == b.datas && a.res == b.res && a.aligns == b.aligns && a.addrs == b.addrs

/-- symbol slots of the label nodes / of the constant nodes -/
def labelRefs (nodes : List AstNode) : List Nat :=
  nodes.filterMap fun n => match n with | .symbol _ _ .label _ (some r) => some r | _ => none
def constRefs (nodes : List AstNode) : List Nat :=
  nodes.filterMap fun n => match n with | .symbol _ _ (.constant _) _ (some r) => some r | _ => none

/-- no constant node shares its symbol slot with a label node (every declaration gets a fresh
    slot; the hypothesis `NoClash` of `Casm.resolveIterativelyN_rep` (`Casm.refsWF_noClash`), validated on every certificate run) -/
def refsWF (nodes : List AstNode) : Bool := (constRefs nodes).all fun r => !(labelRefs nodes).contains r

/-! ## decidable facts about the front end's output (hypotheses of `Casm/Proofs/FullFix.lean`) -/

/-- the symbol context after a node (as `resolve_once` and `match_all` track it) -/
def stepCtx (st : Static) (sc : List String) : AstNode → List String
  | .symbol _ _ _ _ (some r) => (st.decls.symbols.decls.getD r default).ctx
  | _ => sc

def ctxAfter (st : Static) (sc : List String) (pre : List AstNode) : List String := pre.foldl (stepCtx st) sc

/-- the provider of `defs/data_block.rs` and `defs/symbol.rs`: no variable is known -/
def pureP : SKProvider := { queryFunction := asmBuiltinKnown }

/-- `(i, node i)` for every position -/
def positions (nodes : List AstNode) : List (Nat × AstNode) :=
  (List.range nodes.length).filterMap fun i => (nodes[i]?).map fun n => (i, n)

/-- the facts of `Casm.FrontOK`, decided: nothing is marked yet; instruction references and data
    element references are pairwise distinct; an instruction flagged statically known has only
    statically known candidates in the symbol context of its node; a data element flagged so has a
    statically known expression; no label is flagged; a flagged symbol with a value is marked
    resolved -/
def frontOKb (st : Static) (nodes : List AstNode) (d0 : Defs) : Bool :=
  let pos := positions nodes
  d0.instrs.all (fun i => !i.resolved) && d0.datas.all (fun x => !x.resolved)
  && (pos.all fun p => match p.2 with
      | .instr _ (some ref) =>
        let ins := d0.instrs.getD ref default
        (pos.all fun q => match q.2 with
           | .instr _ (some ref') => ref' != ref || q.1 == p.1
           | _ => true)
        && (!ins.known || ins.cands.all fun c => matchKnown st.decls d0 (ctxAfter st [] (nodes.take p.1)) 64 c.m)
      | .data _ es refs =>
        (List.range es.length).all fun k =>
          (!(d0.datas.getD (refs.getD k 0) default).known || staticallyKnown pureP (es.getD k default))
          && (pos.all fun q => match q.2 with
               | .data _ es' refs' => (List.range es'.length).all fun k' => refs'.getD k' 0 != refs.getD k 0 || (q.1 == p.1 && k' == k)
               | _ => true)
      | .symbol _ _ .label _ (some r) => !(d0.sym r).known
      | _ => true)
  && (!st.opts.optStatic || (List.range d0.symbols.length).all fun r =>
        !(d0.sym r).known || (match (d0.sym r).value with | .unknown => true | _ => false) || (d0.sym r).resolved)

/-- the marks both assemblers set before the first pass: every mark except the one the static-value
    optimisation gives a statically known constant that no `-d` option defines -/
def markedByBoth (st : Static) (d0 : Defs) (r : Nat) : Bool :=
  (d0.sym r).resolved &&
    !((d0.sym r).known && (st.decls.symbols.decls.getD r default).kind == .constant &&
      (st.opts.defines.find? (·.1 == (st.decls.symbols.decls.getD r default).name)).isNone)

/-- the facts of `Casm.FrontOKS`, decided: constant nodes of one symbol are one node; a flagged
    constant has a statically known expression; a constant marked by the optimisation only holds the
    definite value `eval_simple` computes for its expression -/
def frontOKSb (st : Static) (nodes : List AstNode) (d0 : Defs) : Bool :=
  let pos := positions nodes
  pos.all fun p => match p.2 with
    | .symbol _ _ (.constant e) _ (some r) =>
      (pos.all fun q => match q.2 with
         | .symbol _ _ (.constant _) _ (some r') => r' != r || q.1 == p.1
         | _ => true)
      && (!(d0.sym r).known || staticallyKnown pureP e)
      && (!((d0.sym r).resolved && !markedByBoth st d0 r) ||
            ((d0.sym r).known && (match evalSimple st.decls d0 e with
              | .ok v => v == (d0.sym r).value && (match v with | .unknown => false | _ => true)
              | .error _ => false)))
    | _ => true

/-- references of instructions and data elements are pairwise distinct; the symbol slot of every
    symbol node exists (or lies beyond the table), and no label has a sized value yet -/
def frontUniqb (nodes : List AstNode) (d0 : Defs) : Bool :=
  let pos := positions nodes
  let symOKb (r : Nat) : Bool := decide (d0.symbols.length ≤ r) || (d0.symbols.getD r none).isSome
  pos.all fun p => match p.2 with
    | .instr _ (some ref) =>
      pos.all fun q => match q.2 with
        | .instr _ (some ref') => ref' != ref || q.1 == p.1
        | _ => true
    | .data _ es refs =>
      (List.range es.length).all fun k =>
        pos.all fun q => match q.2 with
          | .data _ es' refs' => (List.range es'.length).all fun k' => refs'.getD k' 0 != refs.getD k 0 || (q.1 == p.1 && k' == k)
          | _ => true
    | .symbol _ _ .label _ (some r) => symOKb r && (match (d0.sym r).value with | .int x => x.size.isNone | _ => true)
    | .symbol _ _ (.constant _) _ (some r) => symOKb r
    | _ => true

/-! ## the two settings of the static-value optimisation, side by side -/

/-- clear the "resolved in the first pass" marks of instructions and data elements -/
def Defs.unfreeze (d : Defs) : Defs :=
  { d with instrs := d.instrs.map (fun i => { i with resolved := false }), datas := d.datas.map (fun x => { x with resolved := false }) }

def SymDef.keep (s : SymDef) (b : Bool) : SymDef := { s with resolved := s.resolved && b }

/-- clear those marks and the marks of the symbols outside `H` -/
def Defs.unfS (H : Nat → Bool) (d : Defs) : Defs :=
  { d.unfreeze with symbols := (List.range d.symbols.length).map fun i => (d.symbols.getD i none).map fun s => s.keep (H i) }

/-- the same static part with the static-value optimisation switched -/
def Static.withStatic (st : Static) (b : Bool) : Static := { st with opts := { st.opts with optStatic := b } }

def Opts.staticOff (opts : Opts) : Opts := { opts with optStatic := false }

/-- the two front ends agree: same errors, or the same static part, the same nodes, the same values,
    the unoptimised one having the marks `markedByBoth` only -/
def FrontRel (opts : Opts) (fs : SrcFiles) (roots : List (List Char)) : Prop :=
  frontEnd opts.staticOff fs roots =
    (frontEnd opts fs roots).map fun x => (x.1.withStatic false, x.2.1, x.2.2.unfS (markedByBoth x.1 x.2.2))

/-- **Fixed-point certificate** (C02): a claimed final state is re-checked by one strict
    (guessing forbidden), non-first pass; it must be accepted, stable, silent and unchanged. -/
def certify (opts : Opts) (fs : SrcFiles) (roots : List (List Char)) (claimed : StateDump) : Except String Unit :=
  match frontEnd opts fs roots with
  | .error e => .error ("front end: " ++ e.headD "?")
  | .ok (st, nodes, defs) =>
    let d := defs.withDump claimed
    if !refsWF nodes then .error "model: a constant and a label share a symbol slot" else
    if !frontOKb st nodes defs then .error "model: the front-end facts (frontOKb) do not hold" else
    match resolveOnce st nodes false true d with
    | .error (m, _) => .error ("strict pass fails: " ++ m)
    | .ok (d', stable, rep) =>
      if !rep.isEmpty then .error ("strict pass reports: " ++ rep.headD "?")
      else if !stable then .error "strict pass is not stable"
      else if !(d'.dump.same d.dump) then .error "strict pass changes the state"
      else .ok ()

end Casm
